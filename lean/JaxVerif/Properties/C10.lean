/-
C10 — the import hook only adds decorators: everything else in the module is untouched.
-/
import JaxVerif.Generated.Hook
import JaxVerif.Lemmas.HookAst
import JaxVerif.Generated.HookCode
import JaxVerif.Source.Loader

namespace JV

/-- **erase ∘ transform = id**, for every tree (every program): removing the one import after the
    prologue, the last decorator of every `def` and the first of every `class` gives back the
    original tree — every other node, every location, the docstring and `__future__` imports and
    their order included -/
theorem C10_erase (t : Node) (h : clean t = true) : eraseModule (transformModule t) = t :=
  erase_transformModule t

/-- exactly one decorator per synchronous `def` and per `class`, at any nesting depth; none on
    `async def` (whose nested synchronous definitions are still reached) -/
theorem C10_count (t : Node) (h : clean t = true) :
    countKind (fun k => k == .jaxtypedDecorator) (transformModule t) =
      countKind (fun k => k == .funcDef || k == .classDef) t := by
  have hc := count_transformModule t
  rwa [(count_clean_mutual isDeco fun k hk => .inr (eq_of_beq hk)).1 t h, Nat.zero_add] at hc

/-- one import iff the module has a statement after its docstring / `__future__` prologue -/
theorem C10_import_count (l : Loc) (decos kids : List Node) (h : cleanList kids = true) :
    countKindList (fun k => k == .importJaxtyping) (insertImport kids) =
      if kids.all isPrologue then 0 else 1 := by
  rw [countKindList_insertImport, (count_clean_mutual _ fun k hk => .inl (eq_of_beq hk)).2 kids h, Nat.zero_add]
  rfl

/-- **positions**: the import sits exactly after the maximal prefix of `__future__` imports and
    constant-expression statements -/
theorem C10_import_position (kids : List Node) (hne : kids.all isPrologue = false) :
    ∃ pre post, kids = pre ++ post ∧ pre.all isPrologue = true ∧
      (∃ n rest, post = n :: rest ∧ isPrologue n = false) ∧
      insertImport kids = pre ++ importNode :: post := by
  induction kids with
  | nil => cases hne
  | cons n ns ih =>
    rw [insertImport]
    cases hp : isPrologue n
    · exact ⟨[], n :: ns, rfl, rfl, ⟨n, ns, rfl, hp⟩, rfl⟩
    · rw [List.all_cons, hp, Bool.true_and] at hne
      obtain ⟨pre, post, h1, h2, h3, h4⟩ := ih hne
      refine ⟨n :: pre, post, congrArg (n :: ·) h1, ?_, h3, congrArg (n :: ·) h4⟩
      rw [List.all_cons, hp, h2]
      rfl

/-- the `def` decorator is innermost (last), the `class` decorator outermost (first), both carry the
    location of the definition they decorate; `async def` gets none -/
theorem C10_positions (l : Loc) (decos kids : List Node) :
    transform (.mk .funcDef l decos kids) = .mk .funcDef l (transformList decos ++ [decoNode l]) (transformList kids) ∧
    transform (.mk .classDef l decos kids) = .mk .classDef l (decoNode l :: transformList decos) (transformList kids) ∧
    transform (.mk .asyncFuncDef l decos kids) = .mk .asyncFuncDef l (transformList decos) (transformList kids) :=
  ⟨rfl, rfl, rfl⟩

/-- what the current source does (re-extracted on every run): append for `def`, insert(0) for
    `class`, copy_location on both, insertion before the first non-prologue statement, no visitor
    for `AsyncFunctionDef` / `Lambda`; the decorator text looks the typechecker up under the key the table is filled
    under, in a table that is a plain dict on the class and never pruned (definitions nested in functions look it up
    every time the enclosing function runs) -/
theorem C10_generated_good :
    Generated.hookDefDecorator = "append" ∧ Generated.hookClassDecorator = "insert0" ∧
    Generated.hookCopiesLocation = true ∧ Generated.hookImportRule = "before-first-non-prologue" ∧
    Generated.hookVisitors = ["visit_ClassDef", "visit_FunctionDef", "visit_Module"] ∧
    Generated.hookCompileIsolated = true ∧ Generated.hookKeyChain = "md5-everywhere" :=
  ⟨rfl, rfl, rfl, rfl, rfl, rfl, rfl⟩

/-! non-vacuity -/
private def L (n : Nat) : Loc := ⟨n, 0, n, 9⟩
private def sample : Node :=
  .mk .module (L 0) [] [
    .mk .constExpr (L 1) [] [], .mk .futureImport (L 2) [] [],
    .mk .classDef (L 3) [.mk (.other "Name") (L 3) [] []] [
      .mk .funcDef (L 4) [] [.mk (.other "If") (L 5) [] [.mk .funcDef (L 6) [.mk (.other "Name") (L 6) [] []] []]],
      .mk .asyncFuncDef (L 7) [] [.mk .funcDef (L 8) [] []]]]
example : eraseModule (transformModule sample) = sample := rfl
example : countKind (fun k => k == .jaxtypedDecorator) (transformModule sample) = 4 := rfl
example : countKind (fun k => k == .importJaxtyping) (transformModule sample) = 1 := rfl

/-! ### the visitor methods as written today -/

/-- **the three visitor methods, translated from the current source on this run, are the model's transformation**: on
    EVERY function definition, class definition and module (any location, any decorators, any children)
    `visit_FunctionDef` / `visit_ClassDef` / `visit_Module` build the decorator, give it the node's location, put it last /
    first, visit decorators and children with the same visitor (`generic_visit` = the model's `transformList`), leave the
    parent stack as they found it and return the node — exactly `transform` / `transformModule`. `C10_erase`, `C10_count`,
    `C10_import_position` and `C10_positions` are therefore statements about the code the source contains. -/
theorem C10_source_visitors (l : Loc) (decos kids : List Node) :
    runVisitor Generated.visitFunctionDefCode (.mk .funcDef l decos kids) = some (transform (.mk .funcDef l decos kids)) ∧
    runVisitor Generated.visitClassDefCode (.mk .classDef l decos kids) = some (transform (.mk .classDef l decos kids)) ∧
    runVisitor Generated.visitModuleCode (.mk .module l decos kids) = some (transformModule (.mk .module l decos kids)) := by
  -- the methods add the decorator and then visit the whole list, the model visits and then adds: `transform` leaves the
  -- decorator as it is (`transformList_append`, `transform_decoNode`)
  simp [runVisitor, Generated.visitFunctionDefCode, Generated.visitClassDefCode, Generated.visitModuleCode, HStmt.run,
    transform, transformModule, transformList_append, transformList, transform_decoNode]

/-- what a hooked import compiles, from the source read today (harness/translate_loader.py): the bytes decoded by
    `decode_source` (coding cookie, BOM), parsed, passed through the transformer above, located, and nothing else -/
theorem C10_source_to_code (key : String) (writes : Bool) (gc : LSt → LRes) (active : Option String) :
    Generated.sourceToCodeCode.run key writes gc (LSt.fresh active) = .code ⟨true, true⟩ :=
  source_loader_to_code key writes gc active

end JV
