/-
C14 — the dim-string language: modifier order is free, illegal forms are ValueError.
The model `parseSpec : List Char → Option (List PDim × Option Nat)` is total by construction:
`none` is the ValueError, `some` the accepted meaning; there is no third outcome.
-/
import JaxVerif.Lemmas.ParserDsl
import JaxVerif.Generated.ParserCode

namespace JV

/-- **modifier order is free**: any two orderings of the same modifier characters in front of the
    same rest of the token parse identically (value or ValueError alike) — unless an ordering puts
    `#` at the very end of the token, the documented trailing-`#` error. The rest may itself start
    with a `name=` prefix, a base of any kind, or be empty. -/
theorem C14_order (ms₁ ms₂ rest : List Char) (hp : ms₁.Perm ms₂)
    (hm : ∀ c ∈ ms₁, isMod c = true)
    (hlast : rest ≠ [] ∨ (ms₁.getLast? ≠ some '#' ∧ ms₂.getLast? ≠ some '#')) :
    parseTok (ms₁ ++ rest) = parseTok (ms₂ ++ rest) := by
  by_cases hnil : ms₁ = []
  · subst hnil
    rw [hp.nil_eq]
  have hnil₂ : ms₂ ≠ [] := fun h => hnil (by subst h; exact hp.eq_nil)
  have hlast' : ((ms₁ ++ rest).getLast? == some '#') = ((ms₂ ++ rest).getLast? == some '#') := by
    rw [List.getLast?_append, List.getLast?_append]
    cases hr : rest.getLast? with
    | some x => rfl
    | none =>
      obtain ⟨h₁, h₂⟩ := hlast.resolve_left fun h => h (List.getLast?_eq_none_iff.mp hr)
      rw [Option.none_or, Option.none_or, beq_eq_false_iff_ne.mpr h₁, beq_eq_false_iff_ne.mpr h₂]
  -- the flags and the absence of a repetition do not depend on the order
  rw [parseTok_mods _ hm hnil, parseTok_mods _ (fun c hc => hm c (hp.mem_iff.mpr hc)) hnil₂, hlast',
    modsOf_perm hp]
  simp only [hp.nodup_iff]

/-- `...` means `*_` wherever it stands -/
theorem C14_ellipsis (pre post : List (List Char)) (idx : Nat) (iv : Option Nat) :
    parseToks (pre ++ ['.', '.', '.'] :: post) idx iv = parseToks (pre ++ ['*', '_'] :: post) idx iv := by
  have h1 : parseTok ['.', '.', '.'] = some (.anonVar, true) := by decide
  have h2 : parseTok ['*', '_'] = some (.anonVar, true) := by decide
  simp only [parseToks_append, parseToks, h1, h2]

/-- **whitespace is insignificant**: leading, trailing and repeated whitespace of any kind only
    separates tokens -/
theorem C14_whitespace (lead : List Char) (items : List (List Char × List Char))
    (hl : AllWs lead) (ht : ∀ it ∈ items, IsToken it.1 ∧ AllWs it.2) (hs : SepsOk items) :
    splitWs (renderSpec lead items) = items.map (·.1) := by
  induction items generalizing lead with
  | nil => exact (List.append_nil lead ▸ splitWs_ws hl [] : splitWs lead = splitWs [])
  | cons it rest ih =>
    obtain ⟨tok, ws⟩ := it
    obtain ⟨⟨htok, hws⟩, hrest⟩ := List.forall_mem_cons.mp ht
    rw [renderSpec, List.append_assoc, splitWs_ws hl, List.map_cons]
    cases rest with
    | nil => rw [renderSpec, splitWs_append_ws _ hws, splitWs_token htok, List.map_nil]
    | cons r rest' =>
      cases ws with
      | nil => exact absurd rfl hs.1
      | cons c ws' =>
        obtain ⟨hc, hws'⟩ := List.forall_mem_cons.mp hws
        rw [renderSpec_cons, splitWs_sep _ _ hc, splitWs_token htok, ih ws' hws' hrest hs.2]
        rfl

/-- consequently two spellings with the same tokens parse identically -/
theorem C14_whitespace_parse (lead lead' : List Char) (items items' : List (List Char × List Char))
    (hl : AllWs lead) (hl' : AllWs lead')
    (ht : ∀ it ∈ items, IsToken it.1 ∧ AllWs it.2) (ht' : ∀ it ∈ items', IsToken it.1 ∧ AllWs it.2)
    (hs : SepsOk items) (hs' : SepsOk items') (heq : items.map (·.1) = items'.map (·.1)) :
    parseSpec (renderSpec lead items) = parseSpec (renderSpec lead' items') := by
  unfold parseSpec
  rw [C14_whitespace lead items hl ht hs, C14_whitespace lead' items' hl' ht' hs', heq]

/-- **`name=` prefixes are ignored**: for an identifier `name` that does not start with `_`, in
    front of anything but `...` (which takes no decoration at all) -/
theorem C14_doc (name rest : List Char) (hn : isIdentifier name = true) (hu : name.head? ≠ some '_')
    (hr : countEq rest = 0) (hd : hasSub ['.', '.', '.'] rest = false) :
    parseTok (name ++ '=' :: rest) = parseTok rest := by
  have hchars := ident_chars hn
  have hneq : '=' ∉ name := not_mem_of_all hchars rfl
  have happ : name ++ '=' :: rest = (name ++ ['=']) ++ rest := by simp
  -- neither `name` nor `=` is looked at by the tests in front of the loop
  have hpre : ∀ d, (isAlpha d || isDigit d || d == '_') = false → d ≠ '=' → d ∉ name ++ ['='] :=
    fun d hd hne => by simp [not_mem_of_all hchars hd, hne]
  have hlast : ((name ++ '=' :: rest).getLast? == some '#') = (rest.getLast? == some '#') := by
    rw [List.getLast?_append, List.getLast?_cons, Option.some_or]
    cases rest.getLast? <;> rfl
  -- the first round of the loop drops `name=`
  have hstrip : stripMods ((name ++ '=' :: rest).length + 1) (name ++ '=' :: rest) {} =
      stripMods (rest.length + 1) rest {} := by
    cases name with
    | nil => simp [isIdentifier] at hn
    | cons a as =>
      have ha : isAlpha a = true := by
        simp only [isIdentifier, Bool.and_eq_true, Bool.or_eq_true] at hn
        rcases hn.1 with h | h
        · exact h
        · simp at h; subst h; simp at hu
      have hcount : countEq (a :: as ++ '=' :: rest) = 1 := by
        rw [countEq_eq_count] at hr ⊢
        rw [List.count_append, List.count_eq_zero_of_not_mem hneq, List.count_cons_self, hr]
      rw [List.cons_append, stripMods_nonmod_step (isMod_of_isAlpha ha), ← List.cons_append, hcount,
        afterEq_append hneq]
      simp only [beq_self_eq_true, if_true]
      exact stripMods_fuel (by simp; omega) (by omega)
  rw [happ, parseTok_append rest (hpre ',' rfl (by decide)) (hpre '(' rfl (by decide)) (hpre '.' rfl (by decide)),
    ← happ, hlast, hstrip, parseTok_eq rest, hd]
  rfl

/-! **documented illegal forms are ValueError**: a comma, a trailing `#`, a repeated or misplaced modifier, two
multi-axis specifiers -/

theorem C14_illegal_comma (tok : List Char) (h : tok.contains ',' = true) (hp : tok.contains '(' = false) :
    parseTok tok = none := by
  rw [parseTok_eq, h, hp]; rfl

theorem C14_illegal_trailing_hash (tok : List Char) (h : tok.getLast? = some '#') : parseTok tok = none := by
  simp [parseTok, h]

theorem C14_illegal_ellipsis_modifiers (tok : List Char) (h : hasSub ['.', '.', '.'] tok = true)
    (hne : tok ≠ ['.', '.', '.']) : parseTok tok = none := by
  have hne' : (tok != ['.', '.', '.']) = true := by simpa using hne
  rw [parseTok_eq, h, hne']
  simp

/-- a repeated modifier character in the modifier prefix -/
theorem C14_illegal_repeated (ms rest : List Char) (c : Char) (hc : isMod c = true)
    (hm : ∀ d ∈ ms, isMod d = true) (hin : c ∈ ms) : parseTok (ms ++ c :: rest) = none := by
  have hm' : ∀ d ∈ ms ++ [c], isMod d = true := List.forall_mem_append.mpr ⟨hm, List.forall_mem_singleton.mpr hc⟩
  have hdup : ¬ (ms ++ [c]).Nodup := fun hn => (List.nodup_append.mp hn).2.2 c hin c (by simp) rfl
  rw [show ms ++ c :: rest = (ms ++ [c]) ++ rest by simp]
  exact parseTok_mods_none hm' (by simp) (by rw [if_neg hdup]; rfl)

/-- modifiers that cannot apply: `*`, `_`, `?` on a fixed size; `_`, `*`, `?` on a symbolic
    expression; `#` together with `_` -/
theorem C14_illegal_modifier (ms base : List Char)
    (hm : ∀ d ∈ ms, isMod d = true) (hb : base ≠ [] ∧ isMod (base.head!) = false ∧ countEq base ≠ 1) :
    (∀ k, classify base = .fixed k → (ms.contains '*' ∨ ms.contains '_' ∨ ms.contains '?') →
        parseTok (ms ++ base) = none) ∧
    (classify base = .symbolic → (ms.contains '*' ∨ ms.contains '_' ∨ ms.contains '?') →
        parseTok (ms ++ base) = none) ∧
    (classify base = .named → ms.contains '_' → ms.contains '#' → parseTok (ms ++ base) = none) := by
  obtain ⟨hbne, hbh, hbc⟩ := hb
  cases base with
  | nil => exact absurd rfl hbne
  | cons b bs =>
    change isMod b = false at hbh
    -- the loop stops at `base` with the flags of `ms`; the final table then rejects the combination
    have key {x : Char} (hx : x ∈ ms) (hfin : axisOfStripped (some (b :: bs, modsOf ms)) = none) :
        parseTok (ms ++ b :: bs) = none := by
      apply parseTok_mods_none hm (List.ne_nil_of_mem hx)
      simp only [stripMods_nonmod_step hbh, beq_iff_eq, hbc, if_false]
      split
      · exact hfin
      · rfl
    simp only [List.contains_eq_mem, decide_eq_true_eq]
    refine ⟨fun k hk hms => ?_, fun hk hms => ?_, fun hk h1 h2 => key h1 ?_⟩
    · rcases hms with h | h | h <;> exact key h (by simp [axisOfStripped, hk, modsOf, h])
    · rcases hms with h | h | h <;> exact key h (by simp [axisOfStripped, hk, modsOf, h])
    · simp [axisOfStripped, hk, modsOf, h1, h2]

/-- two multi-axis specifiers anywhere in one specification -/
theorem C14_illegal_two_variadics (ts₁ ts₂ ts₃ : List (List Char)) (t u : List Char) (d e : PDim)
    (ht : parseTok t = some (d, true)) (hu : parseTok u = some (e, true)) (idx : Nat) (iv : Option Nat) :
    parseToks (ts₁ ++ t :: ts₂ ++ u :: ts₃) idx iv = none := by
  -- after `t`, the tokens up to `u` keep the index of `t`, and `u` clashes with it
  have hrest : ∀ i j, parseToks (ts₂ ++ u :: ts₃) i (some j) = none := by
    intro i j
    rw [parseToks_append]
    cases h : parseToks ts₂ i (some j) with
    | none => rfl
    | some q => simp [parseToks, hu, parseToks_some h]
  rw [List.append_assoc, List.cons_append, parseToks_append]
  cases parseToks ts₁ idx iv with
  | none => rfl
  | some p => simp [parseToks, ht, hrest]

/-- **concatenation** (used for nested annotations, C15/C20): the outer string followed by the
    inner string parses to the concatenated axes, with the inner multi-axis index shifted -/
theorem C14_concat (s₁ s₂ : List Char) (d₁ d₂ : List PDim) (iv₁ iv₂ : Option Nat)
    (h₁ : parseSpec s₁ = some (d₁, iv₁)) (h₂ : parseSpec s₂ = some (d₂, iv₂))
    (hv : iv₁ = none ∨ iv₂ = none) :
    parseSpec (s₂ ++ ' ' :: s₁) =
      some (d₂ ++ d₁, match iv₂ with
                      | some i => some i
                      | none => iv₁.map (· + d₂.length)) := by
  have h := parseSpec_concat_eq s₁ s₂
  rw [h₁, h₂] at h
  rw [h]
  cases iv₂ with
  | none => rfl
  | some i =>
    rcases hv with rfl | h
    · rfl
    · cases h

/-! ### the parser the source contains today

`Generated/ParserCode.lean` is the body of the `for index, elem in enumerate(dim_str.split())` loop of
`_make_array_cached`, translated statement by statement from the current Python source on every run
(harness/translate.py) into the language of `Model/ParserDsl.lean`. The theorems below are
re-proved on every run: the code the source contains IS the model the theorems above are about. -/

/-- one round of the translated `while True` loop is one round of the model's modifier stripping:
    for every remaining text and every combination of flags already seen -/
theorem C14_source_loop_body (e : List Char) (m : Mods) (k : Option AxKind) (iv : Option Nat) (idx : Nat) :
    Generated.parserLoopBody.run (mkSt e m k iv idx) = loopSpec e m k iv idx := by
  obtain ⟨mb, mv, ma, mt⟩ := m
  cases e with
  | nil => rfl
  | cons c r =>
    cases hc : isMod c with
    | true =>
      -- on a concrete first character and a concrete value of its flag both sides compute
      rcases (isMod_iff c).mp hc with rfl | rfl | rfl | rfl
      · cases mb <;> rfl
      · cases mv <;> rfl
      · cases ma <;> rfl
      · cases mt <;> rfl
    | false =>
      have hne := hc
      simp only [isMod, Bool.or_eq_false_iff] at hne
      rw [PStmt.run_eq_runK, Generated.parserLoopBody]
      -- the tests of the first character all fail (`hne`); what is left on both sides is the test
      -- `elem.count("=") == 1`: `fCountEq1` in the code, written out in `loopSpec`
      simp only [parser_run, ↓reduceIte, mkSt, loopSpec, hc, hne, fLenZero, List.isEmpty_cons, List.head?_cons,
        id_eq]
      rw [← fCountEq1]
      cases fCountEq1 (c :: r) <;> rfl

/-- **for every token**, every position and every state of `index_variadic`: running the translated loop
    body gives exactly what the model's `parseTok` (and the multi-axis bookkeeping of `parseToks`) gives —
    the same axis, the same `index_variadic`, `ValueError` in the same cases, and never any other error -/
theorem C14_source_parser (elem : List Char) (idx : Nat) (iv : Option Nat) :
    runTok Generated.parserBody elem idx iv = tokStep elem idx iv := by
  have key := iterP_loopSpec (fun x => Generated.parserLoopBody.run x) none iv idx
    (fun e m => C14_source_loop_body e m none iv idx) (elem.length + 2) elem {} (by omega)
  simp only [mkSt] at key
  rw [runTok_eq_runK, tokStep_eq, parseTok_feat, Generated.parserBody]
  -- the code up to the `while True` loop: a decision tree over the features of the token, with what follows the
  -- loop, applied to the loop's outcome, at the leaves where no `...` was found
  simp only [parser_run, ↓reduceIte]
  generalize hX : POut.elim _ _ (iterP _ _ _) = X
  -- from the loop on: the loop is `stripMods` (`key`); the rest of the code is run on what it leaves, a base and
  -- four flags, and compared with the model for each value of the flags and each kind of base
  have tail : X = tokStepOf (axisOfStripped (stripMods (elem.length + 1) elem {})) idx iv := by
    rw [← hX, key, loopResult]
    cases stripMods (elem.length + 1) elem {} with
    | none => rfl
    | some p =>
      obtain ⟨base, mb, mv, ma, mt⟩ := p
      simp only [parser_run, ↓reduceIte, mkSt, axisOfStripped, classify_feat]
      clear hX key
      -- the features of `base` are named once: a case split on a term abstracts it from the goal anew in each of the
      -- 32 branches
      generalize fLenZero base = z, fIsIdent base = i, parseIntLit base = n
      cases mb <;> cases mv <;> cases ma <;> cases mt <;> cases iv <;>
        cases z with
        | true => rfl
        | false =>
          cases i with
          | true => rfl
          | false => cases n <;> rfl
  rw [tail]
  clear hX key tail
  cases fHasEll elem with
  | false => cases fComma elem <;> cases fParen elem <;> cases fEndsHash elem <;> rfl
  | true => cases fComma elem <;> cases fParen elem <;> cases fEndsHash elem <;> cases fEqEll elem <;> cases iv <;> rfl

/-- **for every specification string**: the translated code run over `dim_str.split()` yields the axes and
    the multi-axis index of `parseSpec`, or `ValueError` exactly when `parseSpec` has none — the theorems
    above (`C14_order`, `C14_whitespace`, `C14_doc`, the illegal forms, `C14_concat`) are therefore
    statements about the code -/
theorem C14_source_spec (s : List Char) :
    runSpec Generated.parserBody s = (parseSpec s).map some :=
  runSpec_eq Generated.parserBody C14_source_parser s

/-- the loop around the body is the one the model assumes (`dims = []`, `index_variadic = None`,
    `for index, elem in enumerate(dim_str.split())`, `dims = tuple(dims)`, non-strings rejected first) -/
theorem C14_source_header : Generated.parserHeaderOk = true := by decide

/-! non-vacuity / documented examples -/
example : parseSpec "#*foo".toList = parseSpec "*#foo".toList := by decide +kernel
example : parseSpec "  a   b ".toList = parseSpec "a b".toList := by decide +kernel
example : parseSpec "rows=3 cols=4".toList = parseSpec "3 4".toList := by decide +kernel
example : parseSpec "a,b".toList = none ∧ parseSpec "a#".toList = none ∧ parseSpec "##a".toList = none ∧
    parseSpec "*4".toList = none ∧ parseSpec "_4".toList = none ∧ parseSpec "?4".toList = none ∧
    parseSpec "_a+b".toList = none ∧ parseSpec "*a+b".toList = none ∧ parseSpec "?a+b".toList = none ∧
    parseSpec "#_".toList = none ∧ parseSpec "*a *b".toList = none ∧ parseSpec "#...".toList = none ∧
    parseSpec "... *a".toList = none := by decide +kernel
example : parseSpec "min(a,b) c".toList ≠ none := by decide +kernel
example : runSpec Generated.parserBody "#*foo x=3 _".toList =
    some (some ([.namedVar "foo".toList true false, .fixed 3 false, .anon], some 0)) := by decide +kernel
example : runSpec Generated.parserBody "a,b (a)".toList = none := by decide +kernel

end JV
