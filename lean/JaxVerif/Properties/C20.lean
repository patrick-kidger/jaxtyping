/-
C20 — annotations survive pickling and copying with their meaning intact.
`reduce` is the copyreg reducer `_pickle_array_annotation`, `rebuild` what the loading process
does with its output (`_unpickle_array_annotation`: `dtype[array_type, dim_str]`, re-parsing the
string there, then installing the carried dtypes). copy / deepcopy / cloudpickle go through the
same reducer.
-/
import JaxVerif.Lemmas.Make
import JaxVerif.Generated.Make

namespace JV

/-- **round trip**: for every annotation that can be built — flat or nested to any depth — the
    reconstruction exists and has the same array type, the same effective dtypes, the same axes
    and the same multi-axis index; it is again well-formed (so it can be pickled again) and keeps
    its category -/
theorem C20_roundtrip (m : Made) (hw : m.WF) :
    ∃ m', rebuild (reduce true m) = .alts [.made m'] ∧ m'.core = m.core ∧ m'.WF ∧ m'.cat = m.cat :=
  ⟨_, rebuild_reduce m hw, rfl, ⟨(parseSpec_strip _).trans hw.parse, hw.dt⟩, rfl⟩

/-- hence it accepts exactly the same values, whatever the check of a made annotation is -/
theorem C20_accepts {V : Type} (chk : Core → V → Bool) (sc : ScalarTy → V → Bool) (m : Made) (hw : m.WF) (v : V) :
    GetOut.accepts chk sc (rebuild (reduce true m)) v = chk m.core v := by
  rw [rebuild_reduce m hw]
  exact Bool.or_false _

/-- every annotation `_make_array` builds from classes, `Any` and well-formed annotations is
    well-formed: the hypothesis of `C20_roundtrip` holds for everything constructible -/
theorem C20_constructible (cat : Category) (a : Atom) (s : List Char) (m : Made)
    (ha : ∀ inner, a = .made inner → inner.WF) (h : makeArray cat a s = .made m) : m.WF :=
  makeArray_wf cat a s m ha h

/-- the reducer read from the current source hands the effective dtypes over, and `__getitem__`
    strips and re-parses the stored string -/
theorem C20_generated_good :
    Generated.reducerCarriesDtypes = true ∧ Generated.stripsDimStr = true ∧
    Generated.sentinelsByReference = true := by decide

/-- **by value** (cloudpickle on the dynamically created class, which bypasses the reducer): with
    sentinels that pickle as references to their module-level names the annotation comes back
    attribute for attribute -/
theorem C20_by_value (m : Made) : byValue true m = some m := by
  unfold byValue
  rw [mapM_eq_some_self fun d _ => byValueDim_true d, byValueDtypes_true]

/-- and that fact matters: with bare `object()` sentinels every annotation that accepts any dtype
    or has an anonymous axis (`_`, `...`, `*_`) comes back as something the check cannot interpret -/
theorem C20_by_value_needs_reference (m : Made) :
    byValue false m = none ↔ m.dtypes = .any ∨ ∃ d ∈ m.dims, d = .anon ∨ d = .anonVar := by
  unfold byValue
  simp only [← byValueDim_false_none_iff, ← mapM_eq_none_iff, ← byValueDtypes_false_none_iff]
  cases m.dims.mapM (byValueDim false) <;> cases byValueDtypes false m.dtypes <;> simp

/-- the fact matters: a reducer that rebuilds from the written category alone loses the dtypes of
    a nested annotation — `Shaped[Float[A, "a"], "b"]` comes back accepting every dtype -/
theorem C20_reducer_must_carry :
    let shaped : Category := ⟨"Shaped", .any⟩
    let inner : Made := ⟨⟨"Float", .names ["float32"]⟩, "A", "a".toList, .names ["float32"], [.named "a".toList false false], none⟩
    let m := makeArray shaped (.made inner) "b".toList
    (m.made?.map Made.dtypes = some (.names ["float32"])) ∧
    ((m.made?.bind fun m => (rebuild (reduce false m)).single?).map Made.dtypes = some .any) ∧
    ((m.made?.bind fun m => (rebuild (reduce true m)).single?).map Made.dtypes = some (.names ["float32"])) := by
  decide +kernel

/-! non-vacuity: a nested annotation with leading whitespace left over from an empty outer string -/
example :
    let c : Category := ⟨"Float", .names ["float16", "float32"]⟩
    let inner : Made := ⟨c, "", "*b _".toList, c.dtypes, [.namedVar "b".toList false false, .anon], some 0⟩
    let m := makeArray ⟨"Real", .names ["float32", "int8"]⟩ (.made inner) "".toList
    m.made?.map Made.dimStr = some " *b _".toList ∧
    (m.made?.bind fun m => (rebuild (reduce true m)).single?).map Made.dimStr = some "*b _".toList ∧
    (m.made?.bind fun m => (rebuild (reduce true m)).single?).map Made.core = m.made?.map Made.core := by
  decide +kernel

end JV
