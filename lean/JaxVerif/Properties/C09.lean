/-
C09 — PyTree structure names bind, compose, prefix and suffix exactly as documented.
-/
import JaxVerif.Lemmas.Structs

namespace JV

/-- **bind / compare**: a single identifier binds the structure on first use and afterwards
    accepts exactly equal structures -/
theorem C09_bind (S : String) (d : Def) (pm : List (String × Def)) (h : isIdentStr S = true) :
    (pm.lookup S = none → structStep S d pm = .ok (pm ++ [(S, d)])) ∧
    (∀ prev, pm.lookup S = some prev →
        (prev = d → structStep S d pm = .ok pm) ∧ (prev ≠ d → structStep S d pm = .fail)) := by
  rw [structStep, if_pos h]
  refine ⟨fun h0 => by rw [h0], fun prev hp => ?_⟩
  rw [hp]
  exact ⟨fun he => if_pos (he ▸ Rollback.beq_refl prev), fun hne => if_neg (mt (Rollback.beq_eq prev d) hne)⟩

/-- **compose**: the named structure of a composite `"N₁ N₂ … Nₖ"` is the right-nested
    substitution: every leaf of N₁ replaced by N₂ with every leaf replaced by N₃ … -/
theorem C09_compose (pm : List (String × Def)) (names : List String) (defs : List Def)
    (h : names.map (fun n => pm.lookup n) = defs.map some) :
    composeNamed pm names .leaf = .ok (defs.foldr (fun t acc => Def.subst acc t) .leaf) :=
  composeNamed_acc pm names defs .leaf h

/-- in particular `"S T"` stands for S with every leaf replaced by T -/
theorem C09_compose_two (pm : List (String × Def)) (s t : String) (S T : Def)
    (hs : pm.lookup s = some S) (ht : pm.lookup t = some T) :
    composeNamed pm [s, t] .leaf = .ok (Def.subst T S) := by
  simp only [composeNamed, hs, ht, Def.subst]

/-- **prefix** (`"T ..."`): accepted exactly when the tree arises from T by replacing its leaves,
    left to right, by arbitrary subtrees -/
theorem C09_prefix (t d : Def) :
    Def.isPrefix t d = true ↔ ∃ fs, Def.graft t fs = some (d, []) :=
  ⟨fun h => (graft_of_isPrefix t d h).imp fun fs hfs => List.append_nil fs ▸ hfs [],
   fun ⟨fs, h⟩ => isPrefix_of_graft t d fs [] h⟩

/-- **suffix** (`"... T"`): accepted exactly when the tree is some tree U with every leaf replaced
    by a copy of T (its bottom layer consists of copies of T) -/
theorem C09_suffix (t d : Def) :
    Def.isSuffix t d = true ↔ ∃ u, d = Def.subst t u :=
  ⟨subst_of_isSuffix t d, fun ⟨u, hu⟩ => hu ▸ isSuffix_subst t u⟩

/-- a composite mentioning a name that is not bound raises AnnotationError (and, by C04, binds nothing) -/
theorem C09_unbound (pm : List (String × Def)) (pre post : List String) (n : String) (acc : Def)
    (hpre : ∀ p ∈ pre, (pm.lookup p).isSome) (hn : pm.lookup n = none) :
    composeNamed pm (pre ++ n :: post) acc = .annErr := by
  induction pre generalizing acc with
  | nil => rw [List.nil_append, composeNamed, hn]
  | cons p pre ih =>
    obtain ⟨t, ht⟩ := Option.isSome_iff_exists.1 (hpre p List.mem_cons_self)
    rw [List.cons_append, composeNamed, ht]
    exact ih _ fun q hq => hpre q (List.mem_cons_of_mem _ hq)

/-- **validation when the annotation is built**: a structure string is rejected exactly when it
    has no piece, or some piece is neither an identifier nor a `...` standing first or last -/
theorem C09_validate (s : List Char) :
    validStruct s = false ↔
      (splitWs s = [] ∨
       ∃ i p, (splitWs s)[i]? = some p ∧ isIdentifier p = false ∧
         ¬ ((i = 0 ∨ i = (splitWs s).length - 1) ∧ p = ellipsisTok)) := by
  rw [validStruct, Bool.and_eq_false_iff, Bool.not_eq_false', List.isEmpty_iff]
  exact or_congr_right (piecesOk_false_iff (splitWs s) 0 _)

/-- in particular: a whitespace-separated sequence of identifiers, optionally preceded or
    followed by `...`, is accepted; an interior `...` or a non-identifier piece is not -/
theorem C09_validate_forms (ids : List (List Char)) (hne : ids ≠ []) (hid : ∀ p ∈ ids, isIdentifier p = true)
    (lead trail : Bool) :
    piecesOk ((if lead then [ellipsisTok] else []) ++ ids ++ (if trail then [ellipsisTok] else [])) 0
      (((if lead then [ellipsisTok] else []) ++ ids ++ (if trail then [ellipsisTok] else [])).length) = true := by
  -- only `validStruct` asks for a piece to be there
  have _ := hne
  rw [piecesOk_append, piecesOk_append, piecesOk_idents ids _ _ hid, Bool.and_true, Bool.and_eq_true]
  constructor
  · cases lead
    · rfl
    · exact piecesOk_ellipsis 0 _ (.inl rfl)
  · cases trail
    · rfl
    · exact piecesOk_ellipsis _ _ (.inr (by rw [Nat.zero_add, List.length_append (as := _ ++ ids)]; rfl))

/-! non-vacuity -/
example : validStruct "T".toList = true ∧ validStruct "S T".toList = true ∧ validStruct "... T".toList = true ∧
    validStruct "T ...".toList = true ∧ validStruct "".toList = false ∧ validStruct "  ".toList = false ∧
    validStruct "T ... S".toList = false ∧ validStruct "1x".toList = false ∧ validStruct "a.b".toList = false := by decide +kernel
example : Def.isSuffix (.node .tuple [.leaf, .leaf]) (.node .list [.node .tuple [.leaf, .leaf], .node .none []]) = true := by decide +kernel
example : Def.isPrefix (.node .tuple [.leaf, .leaf]) (.node .tuple [.node .list [], .leaf]) = true := by decide +kernel

end JV
