/-
C17 — verdicts depend on type, shape and dtype only, so tracing equals eager.
A tracer and a concrete array are, for jaxtyping, two objects that answer `isinstance`, `.dtype`
and `.shape` alike and differ in everything else (`payload`). The theorems state that the model's
verdict AND bindings are a function of those three answers; `C17_attrs` ties this to the source:
the functions on the check path read nothing else of the checked object.
-/
import JaxVerif.Spec.Calls
import JaxVerif.Lemmas.Payload
import JaxVerif.Generated.ObjAttrs

namespace JV

/-- two objects that answer the type test, `.dtype` and `.shape` alike -/
def SameMeta (o₁ o₂ : ArrObj) : Prop :=
  o₁.isInst = o₂.isInst ∧ o₁.dtype = o₂.dtype ∧ o₁.shape = o₂.shape

/-- **one check**: verdict and bindings are the same for any two such objects, whatever their
    element values, in every context and every mode -/
theorem C17_payload (c : Catch) (fl : Bool) (tp : TreePath) (a : Ann) (o₁ o₂ : ArrObj) (m : Memo)
    (h : SameMeta o₁ o₂) :
    instancecheck c fl tp a o₁ m = instancecheck c fl tp a o₂ m :=
  congrFun (instancecheck_meta c fl tp a h) m

/-- **a whole call**: the typechecker's pass over all annotated values of a call (the walk C02
    shows to be satisfiability) gives the same verdict and the same bindings -/
theorem C17_call (c : Catch) (tp : TreePath) (l₁ l₂ : List (Ann × ArrObj)) (m : Memo)
    (h : All2 (fun p q => p.1 = q.1 ∧ SameMeta p.2 q.2) l₁ l₂) :
    checkSeq c tp l₁ m = checkSeq c tp l₂ m := by
  induction h generalizing m with
  | nil => rfl
  | @cons p q l₁ l₂ hpq _ ih =>
    obtain ⟨a, o₁⟩ := p
    obtain ⟨_, o₂⟩ := q
    obtain ⟨rfl, hm⟩ := hpq
    simp only [checkSeq, instancecheck_meta c false tp a hm, ih]

/-- in particular replacing every payload (what tracing does) changes nothing -/
theorem C17_trace (c : Catch) (tp : TreePath) (l : List (Ann × ArrObj)) (f : ArrObj → Nat) (m : Memo) :
    checkSeq c tp (l.map fun p => (p.1, { p.2 with payload := f p.2 })) m = checkSeq c tp l m := by
  apply C17_call
  induction l with
  | nil => exact .nil
  | cons p ps ih => exact .cons ⟨rfl, rfl, rfl, rfl⟩ ih

/-- **every annotation in scope, PyTrees included**: two values that are the same tree with arrays of
    the same class, dtype and shape at the same places (`Obj.Sim`: element values and everything else
    about the arrays may differ) get the same verdict and leave the same state, for every leaf type
    (arrays, classes, tuples, unions, `PyTree[...]` with or without structure names and `?` axes) -/
theorem C17_pytree (sk : Skel) (l : LType) (x y : Obj) (st : CState) (h : Obj.Sim x y) :
    checkL sk l x st = checkL sk l y st :=
  checkL_sim sk l x y st h

/-- hence the typechecker's pass over the parameters of a call with arbitrary such annotations -/
theorem C17_params (sk : Skel) (ps qs : List Param) (st : TState)
    (h : All2 (fun p q => p.name = q.name ∧ p.ty = q.ty ∧ Obj.Sim p.val q.val) ps qs) :
    checkParams sk ps st = checkParams sk qs st := by
  induction h generalizing st with
  | nil => rfl
  | @cons p q ps qs hpq _ ih =>
    obtain ⟨hn, ht, hv⟩ := hpq
    have hf : checkL sk p.ty p.val = checkL sk q.ty q.val :=
      ht ▸ funext fun c => checkL_sim sk p.ty p.val q.val c hv
    simp only [checkParams, hf, hn, ih]

/-- the source read today: the check path reads `shape` and `dtype` of the checked object and
    nothing else, and hands the bare object only to `isinstance`, `hasattr` and its own two
    helpers — never compares it, tests its truth, indexes or iterates it; `_check_dims` is given
    sizes, not the object -/
theorem C17_attrs :
    (∀ a ∈ Generated.objAttrsRead, a ∈ ["shape", "dtype"]) ∧
    (∀ u ∈ Generated.objBareUses, u ∈ ["isinstance", "hasattr", "_check_shape", "__instancecheck_str__"]) ∧
    Generated.objAttrsRead ≠ [] ∧ "obj" ∉ Generated.checkDimsParams := by decide +kernel

/-! non-vacuity -/
example : SameMeta { isInst := true, dtype := "float32", shape := [2, 3], payload := 0 }
    { isInst := true, dtype := "float32", shape := [2, 3], payload := 77 } := ⟨rfl, rfl, rfl⟩

end JV
