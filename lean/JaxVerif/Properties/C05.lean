/-
C05 — bindings live exactly as long as one jaxtyped call or context block.
-/
import JaxVerif.Generated.Skeleton
import JaxVerif.Lemmas.Stack
import JaxVerif.Source.Wrappers
import JaxVerif.Source.Storage

namespace JV

/-- **balanced**: whatever a program does — nested and recursive calls of every flavour, context
    blocks, manual checks, exits by return, Exception, BaseException, calls that do not bind —
    afterwards the stack has the same depth and every frame below the top is exactly what it was. -/
theorem C05_balanced (sk : Skel) (w : WrapSkel) (hw : w.Good) (ps : List Prog) (st : TState) :
    (runProgs sk w ps st).1.stack.length = st.stack.length ∧
    (runProgs sk w ps st).1.stack.drop 1 = st.stack.drop 1 :=
  runProgs_bal sk w hw ps st

/-- a context block leaves the caller's stack exactly as it was, contents of the top frame
    included, however it is left -/
theorem C05_ctx_exact (sk : Skel) (w : WrapSkel) (hw : w.Good) (body : List Prog) (e : Exit)
    (st : TState) : (runProg sk w (.ctx body e) st).1.stack = st.stack := by
  rw [runProg_ctx_eq]
  exact ctxStep_exact hw (runProgs_bal sk w hw body) st

/-- a decorated call that opens a context (i.e. is not running as the bare function because checks
    are disabled) leaves the caller's stack exactly as it was, however it ends -/
theorem C05_call_exact (sk : Skel) (w : WrapSkel) (hw : w.Good) (k : CallKind) (ps : List Param)
    (ret : Option (LType × Obj)) (bindOk noTc : Bool) (body : List Prog) (e : Exit) (st : TState)
    (hen : k = .newStyle → w.disableTestFirst = true → st.disable = false ∧ noTc = false) :
    (runProg sk w (.call k ps ret bindOk noTc body e) st).1.stack = st.stack := by
  rw [runProg_call_eq]
  refine callStep_exact hw (runProgs_bal sk w hw body) st fun ⟨hk, hc⟩ => ?_
  rw [Bool.and_eq_true] at hc
  obtain ⟨h1, h2⟩ := hen hk hc.1
  rw [h1, h2] at hc
  exact Bool.false_ne_true hc.2

/-- outside every context a check remembers nothing -/
theorem C05_toplevel_stateless (sk : Skel) (w : WrapSkel) (l : LType) (x : Obj) (st : TState)
    (h : st.stack = []) : (runProg sk w (.check l x) st).1.stack = [] := by
  rw [runProg_check_eq]
  have hb := (onTop_bal st (checkL sk l x)).1
  rw [h] at hb
  exact List.eq_nil_of_length_eq_zero hb

/-- **the callee is fresh**: what happens inside a call or a context block (every verdict, every
    `print_bindings()`, every nested outcome) does not depend on the bindings of the callers -/
theorem C05_callee_fresh (sk : Skel) (w : WrapSkel) (hw : w.Good) (p : Prog) (st₁ st₂ : TState)
    (hp : (∃ body e, p = .ctx body e) ∨
          (∃ k ps ret bindOk body e, p = .call k ps ret bindOk false body e ∧ st₁.disable = false))
    (hf : st₁.tp = st₂.tp ∧ st₁.flatten = st₂.flatten ∧ st₁.disable = st₂.disable) :
    (runProg sk w p st₁).2 = (runProg sk w p st₂).2 := by
  rcases hp with ⟨body, e, rfl⟩ | ⟨k, ps, ret, bindOk, body, e, rfl, hd⟩
  · rw [runProg_ctx_eq, runProg_ctx_eq]
    exact (ctxStep_flags (runProgs_rel sk w hw body) st₁ st₂ hf).1.symm
  · rw [runProg_call_eq, runProg_call_eq]
    refine (callStep_flags (runProgs_rel sk w hw body) hf fun ⟨_, hc⟩ => ?_).1.symm
    rw [hd, Bool.and_eq_true] at hc
    exact Bool.false_ne_true hc.2

/-- the skeleton read from the current source is good -/
theorem C05_generated_good :
    Generated.newPopInFinally = some true ∧ Generated.oldPopInFinally = some true ∧
    Generated.ctxExitPopsAlways = some true ∧ Generated.newBindBeforePush = some true ∧
    Generated.oldBindBeforePush = some true := by decide

/-- each fact matters: without the `finally` a BaseException leaves a frame behind; a context
    block that pops only on normal exit leaks too; binding after the push leaks on a bad call -/
theorem C05_facts_matter :
    let sk : Skel := ⟨.baseException, .baseException, true, true, true, true⟩
    let good : WrapSkel := ⟨true, true, true, true, true, true, true, true⟩
    ((runProg sk { good with newPopInFinally := false } (.call .newStyle [] none true false [] .raiseBase) {}).1.stack.length = 1) ∧
    ((runProg sk { good with oldPopInFinally := false } (.call .noChecker [] none true false [] .raiseExc) {}).1.stack.length = 1) ∧
    ((runProg sk { good with ctxExitPopsAlways := false } (.ctx [] .raiseExc) {}).1.stack.length = 1) ∧
    ((runProg sk { good with newBindBeforePush := false } (.call .newStyle [] none false false [] .ret) {}).1.stack.length = 1) := by
  decide

/-- **the code that pushes and pops, as written today**: the bodies of the new-style wrapper (with its helper frame),
    of the old-style / `typechecker=None` wrapper and of `_JaxtypingContext.__enter__` / `__exit__`, translated from
    the current source on this run, ARE the `call` / `ctx` steps of the model with every structural fact true — for
    every argument list (binding or not), every body, every verdict of the typechecker, every exit. `C05_balanced`,
    `C05_call_exact` and `C05_ctx_exact` are therefore statements about the code the source contains. -/
theorem C05_source_wrappers (sk : Skel) (ps : List Param) (ret : Option (LType × Obj)) (bindOk noTc rs nw : Bool)
    (B : TState → TState × List Obs) (e : Exit) (st : TState) :
    runWrapper ⟨sk, ps, ret, bindOk, noTc, B, e, rs, nw, none, .plain, Generated.newImplCode⟩ Generated.newWrapperCode st
      = some (callStep sk goodWrap .newStyle ps ret bindOk noTc B e st) ∧
    runWrapper ⟨sk, ps, ret, bindOk, noTc, B, e, rs, nw, none, .typechecked, .unknown⟩ Generated.oldWrapperCode st
      = some (callStep sk goodWrap .oldStyle ps ret bindOk noTc B e st) ∧
    runWrapper ⟨sk, ps, ret, bindOk, noTc, B, e, rs, nw, none, .plain, .unknown⟩ Generated.oldWrapperCode st
      = some (callStep sk goodWrap .noChecker ps ret bindOk noTc B e st) ∧
    runCtx Generated.ctxEnterCode Generated.ctxExitCode none B e st = some (ctxStep goodWrap B e st) :=
  ⟨source_new_wrapper .., source_old_wrapper .., source_nochecker_wrapper .., source_context ..⟩

/-- **popped whatever the message code does**: the statements that only build message text call user code
    (`__repr__`, the `__setattr__` behind `add_note`); whether or not the first of them raises, and whatever it
    raises, the thread state each wrapper leaves behind is the model's — the frame pushed for the call is gone. -/
theorem C05_source_pop_whatever (mf : Option Exc) (k : FnKind) (sk : Skel) (ps : List Param) (ret : Option (LType × Obj))
    (bindOk noTc rs nw : Bool) (B : TState → TState × List Obs) (e : Exit) (st : TState) :
    (runWrapper ⟨sk, ps, ret, bindOk, noTc, B, e, rs, nw, mf, .plain, Generated.newImplCode⟩ Generated.newWrapperCode st).map Prod.fst
      = some (callStep sk goodWrap .newStyle ps ret bindOk noTc B e st).1 ∧
    (runWrapper ⟨sk, ps, ret, bindOk, noTc, B, e, rs, nw, mf, k, .unknown⟩ Generated.oldWrapperCode st).map Prod.fst
      = some (callStep sk goodWrap (match k with | .plain => .noChecker | .typechecked => .oldStyle) ps ret bindOk noTc B e st).1 ∧
    (runCtx Generated.ctxEnterCode Generated.ctxExitCode mf B e st).map Prod.fst = some (ctxStep goodWrap B e st).1 :=
  ⟨(source_new_wrapper_yields ..).state, (source_old_wrapper_yields ..).state, (source_context_yields ..).state⟩

/-- `get_shape_memo` / `set_shape_memo` / `push_shape_memo` / `pop_shape_memo` of jaxtyping/_storage.py, translated from
    the source read today (harness/translate_storage.py), are the stack operations the theorems above are about, for every
    content of the thread's cell: a push adds exactly one frame, a pop removes exactly the top one, reading and writing
    never change the depth (Source/Storage.lean) -/
theorem C05_source_storage (ctx : SCtx) (st : TState) (cell : Option (List Memo)) (h : st.stack = cell.getD []) :
    (∃ src, runStorageFn Generated.storageFuns ctx Generated.getShapeMemoCode cell = some (cell, .frame src) ∧
            resolve ctx (topMemo st) src = topMemo st) ∧
    ((runStorageFn Generated.storageFuns ctx Generated.setShapeMemoCode cell).map (fun r => r.1.getD [])
        = some (match st.stack with | [] => [] | _ :: r => ctx.M :: r)) ∧
    ((runStorageFn Generated.storageFuns ctx Generated.pushShapeMemoCode cell).map (fun r => r.1.getD [])
        = some ({ args := ctx.A } :: st.stack)) ∧
    (st.stack ≠ [] → (runStorageFn Generated.storageFuns ctx Generated.popShapeMemoCode cell).map (fun r => r.1.getD [])
        = some (popStack st).stack) :=
  source_storage_model ctx st cell h

/-- REFINEMENT, from the source read today: every history of `get_shape_memo` / `set_shape_memo` / `push_shape_memo` /
    `pop_shape_memo` calls that the abstract stack machine accepts (no pop without a frame — which `C05_balanced` proves
    of every program) runs on the translated functions without an error and leaves the thread's cell holding exactly the
    abstract stack, from any starting cell (by induction over the history, Source/Storage.lean) -/
theorem C05_source_storage_history (ops : List StackOp) (c : Option (List Memo)) (s' : List Memo)
    (h : runStackSpec ops (c.getD []) = some s') :
    (runStackImpl ops c).map (·.getD []) = some s' :=
  source_storage_history ops c s' h

/-- the hypothesis is satisfiable by a non-trivial history: a thread that never used the library pushes twice, writes,
    reads, pops once -/
example : runStackSpec [.push [], .push [], .set {}, .get, .pop] ((none : Option (List Memo)).getD []) = some [{ args := [] }] := by
  simp [runStackSpec, StackOp.spec]

end JV
