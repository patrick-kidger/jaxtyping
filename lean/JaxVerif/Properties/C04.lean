/-
C04 — a failed or raising check binds nothing; a passing check is idempotent.
-/
import JaxVerif.Generated.Rollback
import JaxVerif.Lemmas.Trees
import JaxVerif.Source.Trees
import JaxVerif.Source.Storage

namespace JV

/-- an array check that answers False or raises AnnotationError leaves the memo exactly as it was,
    wherever in the walk (prefix, suffix, variadic) the mismatch was found -/
theorem C04_array_fail_restores (c : Catch) (fl : Bool) (tp : TreePath) (a : Ann) (o : ArrObj)
    (m : Memo) (h : (instancecheck c fl tp a o m).1 = .F ∨ (instancecheck c fl tp a o m).1 = .ANN) :
    (instancecheck c fl tp a o m).2 = m :=
  instancecheck_fail_restores h

/-- the same when user code raises in the middle of the walk, for every class of exception the
    handler covers -/
theorem C04_array_exc_restores (c : Catch) (fl : Bool) (tp : TreePath) (a : Ann) (o : ArrObj)
    (m : Memo) (e : Exc) (h : (instancecheck c fl tp a o m).1 = .EXC e) (hc : c.covers e = true) :
    (instancecheck c fl tp a o m).2 = m := by
  rcases instancecheck_cases with h0 | ⟨σ, ν, h1, _⟩ | ⟨e', σ, ν, h1, hcov⟩
  · exact h0
  · rw [h1] at h; cases h
  · rw [h1] at h; cases h; rw [hc] at hcov; cases hcov

/-- with a handler that catches `BaseException` *every* non-accepting outcome restores -/
theorem C04_array_restores_all (fl : Bool) (tp : TreePath) (a : Ann) (o : ArrObj) (m : Memo)
    (h : (instancecheck .baseException fl tp a o m).1 ≠ .T) :
    (instancecheck .baseException fl tp a o m).2 = m :=
  instancecheck_base_restores h

/-- the handler the current source has (extracted on every run) catches `BaseException`, restores
    all four dictionaries and re-raises; the False path restores too -/
theorem C04_generated_catch :
    Generated.arrayCatch = some .baseException ∧ Generated.pytreeCatch = some .baseException ∧
    Generated.arrayRestoresFour = true ∧ Generated.pytreeRestoresFour = true ∧
    Generated.arrayReraises = true ∧ Generated.pytreeReraises = true ∧
    Generated.arrayFalsePathRestores = true ∧ Generated.pytreeFalsePathRestores = true := by
  decide

/-- the hypothesis is not decorative: with `except Exception` a `BaseException` raised by user
    code while formatting `{p}` leaves the already-matched axis `a` bound -/
theorem C04_exception_only_leaks :
    ∃ a o m, (instancecheck .exceptionOnly false none a o m).1 = .EXC .baseException ∧
      (instancecheck .exceptionOnly false none a o m).2.single ≠ m.single :=
  ⟨{ dtypes := .any, shape := { pre := [.named "a" false false, .sym (.hole "p") false], var := none } },
   { isInst := true, dtype := "float32", shape := [3, 4] },
   { args := [("p", .raises .baseException)] }, by decide, by decide⟩

/-- a check that passed passes again from the memo it produced and changes nothing -/
theorem C04_array_idempotent (c : Catch) (tp : TreePath) (a : Ann) (o : ArrObj) (m m' : Memo)
    (h : instancecheck c false tp a o m = (.T, m')) :
    instancecheck c false tp a o m' = (.T, m') :=
  instancecheck_stable h (.refl m')

/-- the same for a whole accepted pass over several annotated values (all parameters of a call):
    checking them again in the context the pass produced accepts again and changes no binding -/
theorem C04_seq_idempotent (c : Catch) (tp : TreePath) (l : List (Ann × ArrObj)) (m m' : Memo)
    (h : checkSeq c tp l m = (.T, m')) : checkSeq c tp l m' = (.T, m') :=
  checkSeq_stable h (.refl m')

/-- and for a PyTree of arrays: an accepted `PyTree[Dtype[cls, dims]]` check, repeated in the
    bindings it produced, is accepted again and changes no binding -/
theorem C04_pytree_idempotent (sk : Skel) (cls : String) (a : Ann) (ha : a.transparent = false)
    (x : Obj) (hx : x.noFault = true) (hn : x ≠ .none) (st : CState)
    (hst : st.flatten = false ∧ st.tp = none ∧ st.noCtx = false)
    (h : (checkL sk (.pytree (.arr cls a) none) x st).2 = .T) :
    let m' := (checkL sk (.pytree (.arr cls a) none) x st).1.memo
    (checkL sk (.pytree (.arr cls a) none) x { st with memo := m' }).2 = .T ∧
    (checkL sk (.pytree (.arr cls a) none) x { st with memo := m' }).1.memo = m' := by
  intro m'
  -- from any such state the check is the pass over the array leaves
  have key := fun st => pytree_arrays_seq sk cls a ha x hx hn st
  generalize (leavesWith (Obj.isArrOf cls) x).map (fun o => (a, o.toArr cls)) = l at key
  obtain ⟨hv, hm⟩ := key st hst
  have hseq : checkSeq sk.arrayCatch none l st.memo = (.T, m') :=
    Prod.ext (hv ▸ h) (hm (hv ▸ h)).symm
  obtain ⟨hv2, hm2⟩ := key { st with memo := m' } hst
  rw [checkSeq_stable hseq (.refl m')] at hv2 hm2
  exact ⟨hv2, hm2 rfl⟩

/-- a PyTree check that answers False, raises AnnotationError, or raises an exception the handler
    covers leaves the bindings (axes *and* structure names) exactly as they were — whatever the
    leaf type, however many leaves had matched and whichever structure name had been bound -/
theorem C04_pytree_fail_restores (sk : Skel) (leafCheck : Obj → CState → CState × Verdict)
    (leafAny : Bool) (S : Option String) (x : Obj) (st : CState)
    (h : match (pytreeInstancecheck sk leafCheck leafAny S x st).2 with
         | .T => False | .F => True | .ANN => True | .EXC e => sk.pytreeCatch.covers e = true) :
    (pytreeInstancecheck sk leafCheck leafAny S x st).1.memo = st.memo :=
  pytree_fail_restores h

/-- lifted to a manual `isinstance` against an array or PyTree annotation at any program point:
    the context stack is untouched unless the verdict is True -/
theorem C04_check_restores (sk : Skel) (l : LType) (x : Obj) (st : TState)
    (hl : (∃ cls a, l = .arr cls a) ∨ (∃ l' s, l = .pytree l' s))
    (hb : sk.arrayCatch = .baseException ∧ sk.pytreeCatch = .baseException)
    (h : (onTop st (checkL sk l x)).2 ≠ .T) :
    (onTop st (checkL sk l x)).1.stack = st.stack := by
  obtain ⟨stack, tp, fl, dis⟩ := st
  cases stack with
  | nil => rw [onTop_nil]
  | cons m rest =>
    rw [onTop_cons] at h ⊢
    exact congrArg (· :: rest) (checkL_restores hl hb rfl h)

/-! non-vacuity -/
-- `a` matched, the last axis did not: nothing stays bound
example : instancecheck .baseException false none
    { dtypes := .any, shape := { pre := [.named "a" false false, .fixed 9 false], var := none } }
    { isInst := true, dtype := "float32", shape := [3, 4] } {} = (.F, {}) := by decide +kernel
-- an accepted check binds, and re-running it changes nothing
example : instancecheck .baseException false none
    { dtypes := .any, shape := { pre := [.named "a" false false], var := some (.namedVar "v" true false, []) } }
    { isInst := true, dtype := "float32", shape := [3, 1, 2] } {} =
    (.T, { single := [(.plain "a", 3)], variadic := [(.plain "v", (true, [1, 2]))] }) := by decide +kernel

/-- **the rollback code of PyTree checks, as written today**: `_MetaPyTree.__instancecheck__` / `_check` translated from the
    current source on this run take the snapshot BEFORE anything can bind (flattening runs the leaf test at every node),
    put all of it back when `_check` answers False and when anything whatever is raised, and otherwise are the model's
    `pytreeInstancecheck` — for every value, leaf check, structure string and state. -/
theorem C04_source_pytree_rollback (env : TEnv) (ac : Catch) (hf : FlattenKept env.leafCheck) (st : CState) :
    runInstancecheck env Generated.instancecheckCode Generated.checkCode st =
      some (if env.bare then (st, .T)
            else pytreeInstancecheck (goodSkel ac) env.leafCheck env.leafAny env.S env.x st) :=
  source_tree_instancecheck env ac hf st

/-- the rollback's reach, from the source read today: `set_shape_memo` replaces the TOP frame by the four tables it is
    given, each in its own slot, and does nothing outside a context; reading never creates a frame -/
theorem C04_source_storage (ctx : SCtx) (cell : Option (List Memo)) :
    runStorageFn Generated.storageFuns ctx Generated.setShapeMemoCode cell
      = some ((match cell with | some (_ :: r) => some (ctx.M :: r) | c => c), .none) ∧
    runStorageFn Generated.storageFuns ctx Generated.getShapeMemoCode cell
      = some (cell, .frame (match cell with | some (_ :: _) => .top | _ => .empty)) :=
  ⟨source_storage_set ctx cell, source_storage_get ctx cell⟩

end JV
