/-
C06 — threads never see each other's bindings or transient check state.
The theorem is about interleavings of *steps*, where a step is an arbitrary function of the three
storage cells as the running thread sees them: it holds for every decomposition of a workload into
steps (one storage access, one bytecode, one whole check), so no finer interleaving than the one
modelled can expose more. What it cannot exhibit: CPython's `threading.local` implementation, the
GIL and C extensions — those are in the trusted base (partial).
-/
import JaxVerif.Lemmas.Threads
import JaxVerif.Generated.Storage
import JaxVerif.Source.Storage

namespace JV

/-- the kinds of the three cells as read from the current `_storage.py` -/
def generatedKinds : Kinds :=
  { shape := (Generated.storageCells.lookup "_shape_storage").getD false
    treepath := (Generated.storageCells.lookup "_treepath_storage").getD false
    treeflatten := (Generated.storageCells.lookup "_treeflatten_storage").getD false }

/-- every mutable module-level cell of `_storage.py` is a `threading.local()`, and the three cells
    the check path uses are among them -/
theorem C06_kinds :
    generatedKinds.allLocal = true ∧ Generated.storageCells.all (·.2) = true ∧
    Generated.storageCells.length = 3 := by decide +kernel

/-- outside `_storage.py` the package holds no process-wide mutable state but what is listed here: construction-time
    caches of annotation classes (`lru_cache` on `_make_array_cached` / `PyTree.__getitem__` / the module `__getattr__`),
    the constant dtype-name tables, the typechecker table of the import hook, and two flags written once. None of them
    is read or written by `isinstance` / by the wrappers while a check is in progress; a new entry (a scratch dictionary
    shared by all threads, a verdict cache, a registry) is a new channel between threads, calls and checks and makes this
    theorem fail -/
theorem C06_no_other_shared_state :
    Generated.processGlobalState = knownGlobalState :=
  rfl

/-- **isolation under every interleaving**: with thread-local cells, for every family of thread
    programs (any number of threads, any steps), every initial world and EVERY schedule, what a
    thread observes — its cells, its position, its transcript of verdicts and bindings — is what it
    observes running alone for as many steps as the schedule gave it -/
theorem C06_noninterference {Obs : Type} (k : Kinds) (hk : k.allLocal = true)
    (progs : Nat → List (Step Obs)) (w₀ : World) (sched : List Nat) (t : Nat) :
    (runSched k progs { w := w₀, pc := fun _ => 0, trace := fun _ => [] } sched).viewOf t =
      soloRun (progs t) (sched.count t) (w₀.locals t, 0, []) :=
  runSched_viewOf hk progs t sched _

/-- the same for the cells read from the source today -/
theorem C06_generated {Obs : Type} (progs : Nat → List (Step Obs)) (w₀ : World) (sched : List Nat) (t : Nat) :
    (runSched generatedKinds progs { w := w₀, pc := fun _ => 0, trace := fun _ => [] } sched).viewOf t =
      soloRun (progs t) (sched.count t) (w₀.locals t, 0, []) :=
  C06_noninterference generatedKinds C06_kinds.1 progs w₀ sched t

/-- in particular two schedules that give `t` the same number of steps are indistinguishable to `t` -/
theorem C06_schedule_independent {Obs : Type} (k : Kinds) (hk : k.allLocal = true)
    (progs : Nat → List (Step Obs)) (w₀ : World) (s₁ s₂ : List Nat) (t : Nat) (h : s₁.count t = s₂.count t) :
    (runSched k progs { w := w₀, pc := fun _ => 0, trace := fun _ => [] } s₁).viewOf t =
    (runSched k progs { w := w₀, pc := fun _ => 0, trace := fun _ => [] } s₂).viewOf t := by
  rw [C06_noninterference k hk, C06_noninterference k hk, h]

/-! ### each cell matters: with any one of them process-global a two-thread schedule exists on which
    thread 0 observes something it never observes alone -/

private def w0 : World := { shared := {}, locals := fun _ => {} }
private def run0 : Run Nat := { w := w0, pc := fun _ => 0, trace := fun _ => [] }

/-- thread 0 switches flatten mode on and later looks at it; thread 1 switches it off -/
private def flattenProgs : Nat → List (Step Nat)
  | 0 => [fun c => ({ c with flatten := true }, []), fun c => (c, [if c.flatten then 1 else 0])]
  | _ => [fun c => ({ c with flatten := false }, [])]

/-- thread 0 labels a leaf and later reads the label; thread 1 clears it -/
private def treepathProgs : Nat → List (Step Nat)
  | 0 => [fun c => ({ c with tp := some (0, "T") }, []), fun c => (c, [if c.tp.isSome then 1 else 0])]
  | _ => [fun c => ({ c with tp := none }, [])]

/-- thread 0 opens a context and later counts the open contexts; thread 1 closes one -/
private def stackProgs : Nat → List (Step Nat)
  | 0 => [fun c => ({ c with stack := {} :: c.stack }, []), fun c => (c, [c.stack.length])]
  | _ => [fun c => ({ c with stack := c.stack.tail }, [])]

theorem C06_sensitive :
    -- alone, and under every schedule with thread-local cells, thread 0 reads back what it wrote
    (runSched ⟨true, true, true⟩ flattenProgs run0 [0, 1, 0]).trace 0 = [1] ∧
    (runSched ⟨true, true, true⟩ treepathProgs run0 [0, 1, 0]).trace 0 = [1] ∧
    (runSched ⟨true, true, true⟩ stackProgs run0 [0, 1, 0]).trace 0 = [1] ∧
    -- with one cell process-global it reads thread 1's write
    (runSched ⟨true, true, false⟩ flattenProgs run0 [0, 1, 0]).trace 0 = [0] ∧
    (runSched ⟨true, false, true⟩ treepathProgs run0 [0, 1, 0]).trace 0 = [0] ∧
    (runSched ⟨false, true, true⟩ stackProgs run0 [0, 1, 0]).trace 0 = [0] := by
  decide +kernel

/-- the four binding-stack functions, translated from the source read today: what each does is a function of the
    calling thread's own `threading.local()` cell and of its arguments only — the translator accepts no other place to
    keep the stack (a class attribute, a captured `vars(...)` dict, a module-level list become `.unknown`) -/
theorem C06_source_storage (ctx : SCtx) (st : TState) (cell : Option (List Memo)) (h : st.stack = cell.getD []) :
    (∃ src, runStorageFn Generated.storageFuns ctx Generated.getShapeMemoCode cell = some (cell, .frame src) ∧
            resolve ctx (topMemo st) src = topMemo st) ∧
    ((runStorageFn Generated.storageFuns ctx Generated.setShapeMemoCode cell).map (fun r => r.1.getD [])
        = some (match st.stack with | [] => [] | _ :: r => ctx.M :: r)) ∧
    ((runStorageFn Generated.storageFuns ctx Generated.pushShapeMemoCode cell).map (fun r => r.1.getD [])
        = some ({ args := ctx.A } :: st.stack)) ∧
    (st.stack ≠ [] → (runStorageFn Generated.storageFuns ctx Generated.popShapeMemoCode cell).map (fun r => r.1.getD [])
        = some (popStack st).stack) :=
  source_storage_model ctx st cell h

/-- the two one-value cells, translated from the source read today: each function reads and writes only the calling
    thread's own `threading.local()` cell (the translator accepts no other place to keep the label or the flag, and no
    initialisation at import time, which would exist on the importing thread only) -/
theorem C06_source_cells (ctx : KCtx) (tp fl : Option KVal) (htp : TreepathCellOk tp) (hfl : FlattenCellOk fl) :
    (runCellFn Generated.treepathFuns ctx Generated.clearTreepathCode tp = some (some .none, .inl .none) ∧
     runCellFn Generated.treepathFuns ctx Generated.getTreepathCode tp
       = (match tp with | some (.label i S) => some (tp, .inl (.label i S)) | _ => some (tp, .inr ()))) ∧
    runCellFn Generated.treeflattenFuns ctx Generated.getTreeflattenCode fl = some (fl, .inl (.bool (flattenOfCell fl))) :=
  ⟨⟨(source_cell_treepath ctx tp htp).1, (source_cell_treepath ctx tp htp).2.2⟩, (source_cell_flatten ctx fl hfl).2.2⟩

end JV
