/-
C01 — an array check decides shape exactly as the dim-string language says.
The property theorems, the proofs that the code translated from `_check_dims`, `_check_shape` and
`__instancecheck_str__` is the model, and non-vacuity examples; the general lemmas are in Lemmas/.
-/
import JaxVerif.Lemmas.Rollback
import JaxVerif.Generated.CheckCode
import JaxVerif.Generated.Rollback
import JaxVerif.Lemmas.Slices
import JaxVerif.Generated.Skeleton

namespace JV

/-- soundness of the per-axis walk: an accepted walk only adds bindings, and every total
    assignment extending the final memo satisfies every axis. -/
theorem C01_dims_sound (tp : TreePath) (args : Args) (σ σ' : Single) (l : List (Dim × Nat))
    (h : checkDims tp args σ l = .ok σ') :
    (∀ k n, σ.lookup k = some n → σ'.lookup k = some n) ∧
    ∀ α, ExtendsSingle α σ' → ∀ p ∈ l, SatDim tp args α p.1 p.2 :=
  ⟨(checkDims_ok h).1, fun _ hα => (checkDims_sound h hα).2⟩

/-- completeness: if some total assignment consistent with the memo satisfies every axis, the
    walk accepts (staying consistent with it) or stops at an unbound symbolic name. -/
theorem C01_dims_complete (tp : TreePath) (args : Args) (α : Key → Nat) (σ : Single)
    (l : List (Dim × Nat)) (hα : ExtendsSingle α σ) (hs : ∀ p ∈ l, SatDim tp args α p.1 p.2) :
    (∃ σ', checkDims tp args σ l = .ok σ' ∧ ExtendsSingle α σ') ∨ checkDims tp args σ l = .annErr :=
  checkDims_complete hα hs

/-- the greedy walk is satisfiability -/
theorem C01_dims_iff (tp : TreePath) (args : Args) (σ : Single) (l : List (Dim × Nat))
    (hne : checkDims tp args σ l ≠ .annErr) :
    (∃ σ', checkDims tp args σ l = .ok σ') ↔
      ∃ α, ExtendsSingle α σ ∧ ∀ p ∈ l, SatDim tp args α p.1 p.2 :=
  checkDims_iff tp args σ l hne

/-- any number of uses of one `*name`, in any order: accepted iff one shape `v` exists that
    every exact use equals and every `#` use broadcasts to -/
theorem C01_variadic_iff (st : Option (Bool × List Nat)) (us : List (Bool × List Nat)) :
    (∃ st', vrun st us = some st') ↔ ∃ v, ExtV v st ∧ ∀ u ∈ us, SatV v u :=
  vrun_iff st us

/-- what the memo of a `*name` holds after an accepted history: `(false, S)` as soon as one exact
    use happened (then every exact use equals `S` and every `#` use broadcasts to `S`);
    `(true, S)` while only `#` uses happened, and then every use broadcasts to `S` and `S`
    broadcasts to every common upper bound (it is the joint broadcast). -/
theorem C01_variadic_state (us : List (Bool × List Nat)) (b : Bool) (S : List Nat)
    (h : vrun none us = some (some (b, S))) :
    (b = false → (∃ u ∈ us, u.1 = false) ∧ ∀ u ∈ us, SatV S u) ∧
    (b = true → (∀ u ∈ us, u.1 = true ∧ BroadcastsTo u.2 S) ∧
      ∀ v, (∀ u ∈ us, BroadcastsTo u.2 v) → BroadcastsTo S v) := by
  have hflag : b = us.all (·.1) := vrun_flag h
  have hsat := (vrun_sound h (ExtV_self b S)).2
  constructor
  · rintro rfl
    exact ⟨by simpa using hflag.symm, hsat⟩
  · rintro rfl
    have htrue : ∀ u ∈ us, u.1 = true := List.all_eq_true.mp hflag.symm
    refine ⟨fun u hu => ⟨htrue u hu, ?_⟩, fun v hv => ?_⟩
    · have := hsat u hu
      rwa [SatV, htrue u hu] at this
    · obtain ⟨st', h', hv'⟩ := vrun_complete (v := v) (st := none) trivial fun u hu => by
        rw [SatV, htrue u hu]; exact hv u hu
      cases h.symm.trans h'
      exact hv'

theorem C01_shape_sound (tp : TreePath) (args : Args) (sh : Shape) (shape : List Nat)
    (σ σ' : Single) (ν ν' : Variadic) (h : checkShape tp args sh shape σ ν = .ok (σ', ν')) :
    ∀ α, Extends α σ' ν' → Extends α σ ν ∧ Matches tp args α sh shape :=
  fun _ => checkShape_sound h

theorem C01_shape_complete (tp : TreePath) (args : Args) (sh : Shape) (shape : List Nat)
    (σ : Single) (ν : Variadic) (α : Asg) (hα : Extends α σ ν) (hm : Matches tp args α sh shape) :
    (∃ σ' ν', checkShape tp args sh shape σ ν = .ok (σ', ν') ∧ Extends α σ' ν') ∨
      checkShape tp args sh shape σ ν = .annErr :=
  checkShape_complete hα hm

/-- when the walk raises AnnotationError: exactly when, in walk order, the first axis that is
    not already satisfied is a symbolic axis over an unbound name or missing argument, or a `?`
    axis outside a structured PyTree -/
theorem C01_annerr_iff (tp : TreePath) (args : Args) (σ : Single) (l : List (Dim × Nat)) :
    checkDims tp args σ l = .annErr ↔
      ∃ l1 d n l2 σ1, l = l1 ++ (d, n) :: l2 ∧ checkDims tp args σ l1 = .ok σ1 ∧
        ((∃ e b, d = .sym e b ∧ ¬(b = true ∧ n = 1) ∧ e.eval args σ1 = .annErr) ∨
         (∃ x b, d = .named x b true ∧ ¬(b = true ∧ n = 1) ∧ tp = none)) := by
  constructor
  · intro h
    induction l generalizing σ with
    | nil => cases h
    | cons p rest ih =>
      obtain ⟨d, n⟩ := p
      rw [checkDims_cons] at h
      cases hd : checkDim tp args σ d n with
      | ok σ1 =>
        rw [hd] at h
        obtain ⟨l1, d', n', l2, σ2, hl, hc, hcase⟩ := ih σ1 h
        exact ⟨(d, n) :: l1, d', n', l2, σ2, by rw [hl]; rfl,
          checkDims_cons_ok_iff.mpr ⟨σ1, hd, hc⟩, hcase⟩
      | annErr => exact ⟨[], d, n, rest, σ, rfl, rfl, checkDim_annErr_iff.mp hd⟩
      | _ => rw [hd] at h; cases h
  · rintro ⟨l1, d, n, l2, σ1, rfl, hc, hcase⟩
    simp only [checkDims_append, hc, checkDims_cons, checkDim_annErr_iff.mpr hcase]

/-- the whole `isinstance`: outside the "only look at the array type" mode and for an
    annotation that was not made transparent, the verdict is True exactly when the value is an
    instance of the array type, its dtype is in the category and some total assignment
    consistent with the context matches the shape — unless the check raises. -/
theorem C01_instancecheck (c : Catch) (tp : TreePath) (a : Ann) (o : ArrObj) (m : Memo)
    (ht : a.transparent = false)
    (hann : (instancecheck c false tp a o m).1 ≠ .ANN) :
    (instancecheck c false tp a o m).1 = .T ↔
      (o.isInst = true ∧ a.dtypes.accepts o.dtype = true ∧
        ∃ α, Extends α m.single m.variadic ∧ Matches tp m.args α a.shape o.shape) :=
  instancecheck_iff ht hann

/-- rank: without a multi-axis specifier the rank is the number of axes; with one it is at least
    the number of single axes -/
theorem C01_rank (tp : TreePath) (args : Args) (α : Asg) (sh : Shape) (shape : List Nat)
    (h : Matches tp args α sh shape) :
    match sh.var with
    | none => shape.length = sh.pre.length
    | some (_, suf) => sh.pre.length + suf.length ≤ shape.length :=
  (matches_iff.mp h).1

/-- the broadcast rule is numpy's: right-aligned, per axis equal or one of them 1 -/
theorem C01_bcast_spec (a b c : List Nat) :
    bcast a b = some c ↔
      (c.length = max a.length b.length ∧
        ∀ i, i < c.length →
          b1 ((a.reverse)[i]?.getD 1) ((b.reverse)[i]?.getD 1) = some ((c.reverse)[i]?.getD 1)) := by
  rw [bcast_eq_some_iff, bc_spec]
  simp only [List.length_reverse]

/-! ### the tie to the source: translated code = model

`harness/translate.py` translates the `if / elif / else` chain of `_check_dims` and the multi-axis
part of `_check_shape` from the CURRENT Python source into the language of `Model/SourceDsl.lean`
(`Generated/CheckCode.lean`, rewritten on every run). The theorems below are re-proved on every
run by scripts that only split on the atoms the code can look at and compute, so they keep holding
under restructurings of the source that mean the same and stop holding under those that do not. -/

-- the simp sets below also hold what a differently arranged source needs; on today's source some of it goes unused
set_option linter.unusedSimpArgs false

/-- **`_check_dims` as the source has it today is the model's `checkDim`**, for every axis
    specifier, size, context and `?`-label -/
theorem C01_source_check_dims (tp : TreePath) (args : Args) (σ : Single) (d : Dim) (n : Nat) :
    runChain tp args σ d n Generated.checkDimsChain = checkDim tp args σ d n := by
  cases d with
  | anon => rfl
  | fixed k b | named x b t | sym e b =>
    simp only [Generated.checkDimsChain, runChain, DGuard.holds, checkDim]
    -- the one test of the chain that the kind of axis does not decide
    generalize (b && n == 1) = skip
    cases skip <;> rfl

/-- **the multi-axis branch of `_check_shape` as the source has it today is the model's `vstep`**:
    for every earlier binding `(prev_broadcastable, prev_shape)`, every use `*name` / `*#name` and
    every shape, the translated statements reject exactly when `vstep` does and leave exactly the
    value `vstep` computes in the memo -/
theorem C01_source_variadic (prevB : Bool) (prev : List Nat) (curB : Bool) (new : List Nat) :
    runVariadic Generated.variadicCode prevB prev curB new = vstep (some (prevB, prev)) curB new := by
  unfold runVariadic
  -- All that the statements and `vstep` can look at: whether the shapes broadcast and, if so, how the joint shape `j`
  -- compares with each (`case'`: these two tests exist only then); the two flags; whether the shapes are equal. In each
  -- of the 40 cases both sides compute under `simp only`, the equations of the case (`*`) deciding the tests. No case
  -- of today's source is left for `simp_all`: it is for sources that use what a test on the way has established (such
  -- as storing `new` where `j = new` is known).
  cases hb : bcast new prev
  case' some j => cases e2 : (j != new) <;> cases e3 : (j != prev)
  all_goals
    cases prevB <;> cases curB <;> cases e1 : (new != prev) <;>
      simp only [Generated.variadicCode, runV, runStmt, VCond.eval, vstep, *, Bool.or_false, Bool.or_true,
        Bool.true_or, Bool.false_or, Bool.not_true, Bool.not_false, Bool.and_true, Bool.and_false, Bool.true_and,
        Bool.false_and, Bool.false_eq_true, if_true, if_false, reduceCtorEq, Option.map_some, Option.map_none,
        Option.getD_some, Option.getD_none] <;>
      try simp_all

/-- the first use of a multi-axis name stores `(broadcastable, shape)` — as `vstep none` does -/
theorem C01_source_variadic_first (b : Bool) (n : List Nat) :
    Generated.variadicFirstStoresCurNew = true ∧ vstep none b n = some (b, n) := ⟨by decide, rfl⟩

/-- **`__instancecheck_str__` as the source orders its stages today is the model's `instancecheck`**
    (with the exception class its handler is read to catch): transparency switch, type test,
    flatten-mode accept, dtype name and test, snapshot, shape walk with rollback, final rollback -/
theorem C01_source_stages (fl : Bool) (tp : TreePath) (a : Ann) (o : ArrObj) (m : Memo) :
    runStages ((Generated.arrayCatch).getD .exceptionOnly) fl tp a o m Generated.instancecheckStages {} =
      some (instancecheck ((Generated.arrayCatch).getD .exceptionOnly) fl tp a o m) := by
  generalize (Generated.arrayCatch).getD .exceptionOnly = c
  simp only [Generated.instancecheckStages, runStages, instancecheck]
  -- all that the stages and the model look at: four Booleans and the outcome of the shape walk
  generalize a.transparent = t
  generalize o.isInst = i
  generalize a.dtypes.accepts o.dtype = d
  generalize checkShape tp m.args a.shape o.shape m.single m.variadic = w
  -- fifteen of the sixteen cases are decided before the walk, and both sides compute; where it runs (not transparent,
  -- an instance, not in flatten mode, dtype accepted) its outcome is split as well
  cases t <;> cases i <;> cases fl <;> cases d <;>
    first | rfl | (rcases w with ⟨σ, ν⟩ | _ | _ | ⟨e, σ, ν⟩ <;> rfl)

/-- what the two theorems after it state, in one: for every rank the plan's two rank tests are the model's, and from
    rank `n - 1` on all its bounds are -/
theorem source_slicePlan (n m i : Nat) (hi : i < n) :
    ∃ v, Generated.slicePlan.vals n m i = some v ∧ v.noVarFail = (m != n) ∧ v.varFail = decide (m < n - 1) ∧
      (n ≤ m + 1 → v = sliceSpec n m i) := by
  have hi0 : ¬ ((i : Int) < 0) := by omega
  have hbne : ((m : Int) != (n : Int)) = (m != n) := by
    rw [Bool.eq_iff_iff]; simp only [bne_iff_ne, ne_eq, Int.natCast_inj]
  -- `simp` runs the plan and Python's slice rules on both sides; what it leaves for `omega` are the comparisons of the
  -- normalised bounds (`Int` on the code's side, truncated `Nat` subtraction on the model's)
  by_cases hs : n - i - 1 = 0
  · have hj : (-((n : Int) - (i : Int) - 1) == 0) = true := by simp; omega
    simp [SlicePlan.vals, Generated.slicePlan, IExp.eval, ICmp.holds, boundsOf, pyBound, sliceSpec, hs, hj, hi0, hbne]
    omega
  · have hj : (-((n : Int) - (i : Int) - 1) == 0) = false := by simp; omega
    have h1 : (1 : Int) < n - i := by omega
    simp [SlicePlan.vals, Generated.slicePlan, IExp.eval, ICmp.holds, boundsOf, pyBound, sliceSpec, hs, hj, hi0, hbne, h1]
    omega

/-- **the index arithmetic of `_check_shape` as the source has it today**: for every number of axes `n`, every
    position `i` of the multi-axis specifier and every rank `m ≥ n - 1`, the plan translated from the source
    (`i`, `j = -(len(dims) - i - 1)`, `if j == 0: j = None`, the slices `[:i]`, `[j:]`, `[i:j]` under Python's
    slice rules, the two rank tests) computes exactly the bounds of the model: axes before the specifier
    against the first `i` sizes, axes after it against the last `n - i - 1` sizes (skipped when there are none),
    the sizes in between for the specifier itself -/
theorem C01_source_slices (n m i : Nat) (hi : i < n) (hm : n ≤ m + 1) :
    Generated.slicePlan.vals n m i = some (sliceSpec n m i) := by
  obtain ⟨v, h, _, _, hv⟩ := source_slicePlan n m i hi
  rw [h, hv hm]

/-- the rank tests alone, for every rank (also those the second test rejects) -/
theorem C01_source_rank_tests (n m i : Nat) (hi : i < n) :
    (Generated.slicePlan.vals n m i).map (fun v => (v.noVarFail, v.varFail)) = some (m != n, decide (m < n - 1)) := by
  obtain ⟨v, h, h1, h2, _⟩ := source_slicePlan n m i hi
  rw [h, Option.map_some, h1, h2]

/-- hence, on lists: the slices the source takes of `cls.dims` and `obj.shape` are the `take` / `drop` of
    `checkShape` and `toShape` -/
theorem C01_source_slices_lists {α β : Type} (dims : List α) (shape : List β) (i : Nat)
    (hi : i < dims.length) (hm : dims.length ≤ shape.length + 1) :
    ∃ v, Generated.slicePlan.vals dims.length shape.length i = some v ∧
      sliceNat dims v.prefixDims.1 v.prefixDims.2 = dims.take i ∧
      sliceNat shape v.prefixShape.1 v.prefixShape.2 = shape.take i ∧
      (match v.suffixDims, v.suffixShape with
       | some sd, some ss =>
         sliceNat dims sd.1 sd.2 = dims.drop (i + 1) ∧
           sliceNat shape ss.1 ss.2 = shape.drop (shape.length - (dims.length - i - 1))
       | none, none => dims.drop (i + 1) = [] ∧ shape.drop (shape.length - (dims.length - i - 1)) = []
       | _, _ => False) ∧
      sliceNat shape v.midBound.1 v.midBound.2 =
        (shape.drop i).take (shape.length - i - (dims.length - i - 1)) ∧
      v.midFirst = v.midBound ∧ v.varIndex = i :=
  ⟨_, C01_source_slices _ _ i hi hm, sliceSpec_lists dims shape i⟩

/-- what `{name}` axes are evaluated against: both wrappers, as read today, hand `push_shape_memo` the arguments
    of `signature.bind(*args, **kwargs)` after an unconditional `apply_defaults()` — every parameter of the
    current call is there, passed or defaulted (`Args` in the model is total over the parameter names) -/
theorem C01_source_arguments : Generated.pushSeesDefaults = true := by decide

/-! non-vacuity: concrete states meeting the hypotheses -/

-- `*#v` after an exact `*v`: accepted when its shape broadcasts to the bound one, rejected when it is of higher rank
example : vrun none [(false, [4, 5]), (true, [5])] = some (some (false, [4, 5])) := by decide +kernel
example : vrun none [(false, [5]), (true, [4, 5])] = none := by decide +kernel
-- suffix axes after a variadic, `#` on a symbolic axis, size-0 axes
example :
    checkShape none [] { pre := [.named "a" false false], var := some (.namedVar "v" true false,
      [.sym (.add (.var "a") (.lit 1)) true, .fixed 0 false]) } [2, 7, 1, 1, 0] [] []
      = .ok ([(.plain "a", 2)], [(.plain "v", (true, [7, 1]))]) := by decide +kernel
example : (instancecheck .exceptionOnly false none
    { dtypes := .any, shape := { pre := [.sym (.var "q") false], var := none } }
    { isInst := true, dtype := "float32", shape := [3] } {}).1 = .ANN := by decide +kernel

end JV
