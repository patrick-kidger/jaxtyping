/-
C08 — PyTree[L] accepts exactly the trees all of whose leaves match L.
-/
import JaxVerif.Spec.Trees
import JaxVerif.Generated.Skeleton
import JaxVerif.Spec.Calls
import JaxVerif.Lemmas.Trees
import JaxVerif.Source.Trees
import JaxVerif.Lemmas.Treepath

namespace JV

/-- for leaf types that do not involve the context (int, str, None, Any, classes, tuples and
    unions of those) the check of one value is the declarative decision and leaves the state alone -/
theorem C08_memofree_check (sk : Skel) (l : LType) (h : MemoFree l) (x : Obj) (st : CState) :
    checkL sk l x st = (st, if accL l x then .T else .F) := by
  induction h generalizing x st with
  | any => rfl
  -- `eq_refl` is the attempt of `rfl` that succeeds here; asked for directly it halves the cost of these forty cases
  | int | str | noneT | user acc => cases x <;> eq_refl
  | tuple ts _ ih =>
    -- the length test in front of the element-wise check, the same for a tuple and a namedtuple
    have hlen : ∀ xs : List Obj,
        (if (xs.length != ts.length) = true then (st, Verdict.F) else checkLs sk ts xs st) =
          (st, if (xs.length == ts.length && accLs ts xs) = true then Verdict.T else Verdict.F) := by
      intro xs
      rw [checkLs_of_forall sk ts ih xs st, bne]
      cases xs.length == ts.length <;> rfl
    cases x with
    | tuple xs => exact hlen xs
    | ntuple tag xs => exact hlen xs
    | _ => eq_refl
  | union ts _ ih => exact checkLU_of_forall sk ts ih x st

/-- `PyTree[l]` for such a leaf type decides "every leaf matches `l`" and hands the memo back -/
theorem checkL_pytree_pure (sk : Skel) (l : LType) (h : MemoFree l) :
    LeafSpec (fun _ => True) MemoEq (checkL sk (.pytree l none)) fun x => (leavesWith (accL l) x).all (accL l) :=
  pytree_pure sk
    (leafSpec_memoEq_of _ _ fun y s _ => by rw [C08_memofree_check sk l h y s]; exact ⟨rfl, rfl⟩)
    (by
      cases h with
      | any => exact fun _ _ => rfl
      | _ => exact nofun)

/-- **PyTree[L] accepts exactly the trees all of whose leaves match L**, where any subtree that
    itself matches L counts as a leaf and None / empty containers contribute no leaves: for every
    value whose flatteners do not raise, -/
theorem C08_stateless (sk : Skel) (l : LType) (h : MemoFree l) (x : Obj) (hx : x.noFault = true)
    (st : CState) :
    ((checkL sk (.pytree l none) x st).2 = .T ↔ TreeAccepts (fun y => accL l y = true) x) ∧
    ((checkL sk (.pytree l none) x st).2 = .T ∨ (checkL sk (.pytree l none) x st).2 = .F) ∧
    (checkL sk (.pytree l none) x st).1.memo = st.memo := by
  obtain ⟨hv, hm, _⟩ := (checkL_pytree_pure sk l h).step x st hx trivial
  rw [hv, ← all_leaves_iff]
  cases (leavesWith (accL l) x).all (accL l)
  · exact ⟨⟨nofun, nofun⟩, .inr rfl, hm⟩
  · exact ⟨⟨fun _ => rfl, fun _ => rfl⟩, .inl rfl, hm⟩

/-- **PyTree[L] and PyTree[PyTree[L]] accept the same values** -/
theorem C08_nested (sk : Skel) (l : LType) (h : MemoFree l) (x : Obj) (hx : x.noFault = true) (st : CState) :
    (checkL sk (.pytree (.pytree l none) none) x st).2 = (checkL sk (.pytree l none) x st).2 := by
  -- the inner PyTree is a memo-keeping check deciding `p`, so the outer one decides "every leaf satisfies `p`"
  have h1 := checkL_pytree_pure sk l h
  generalize hp : (fun x => (leavesWith (accL l) x).all (accL l)) = p at h1
  have hiff : (leavesWith p x).all p = p x := by
    subst hp
    refine Bool.eq_iff_iff.mpr ?_
    rw [all_leaves_iff, all_leaves_iff]
    exact ⟨fun ht => (ht.mono fun y => (all_leaves_iff (accL l) y).mp).idem,
      fun ht => .leaf x ((all_leaves_iff (accL l) x).mpr ht)⟩
  rw [(h1.step x st hx trivial).1, ← hiff]
  exact ((pytree_pure sk (b := false) h1 nofun).step x st hx trivial).1

/-- bare `PyTree` accepts everything; a top-level `None` is always accepted -/
theorem C08_bare (sk : Skel) (x : Obj) (st : CState) (l : LType) (s : Option String) :
    checkL sk .barePytree x st = (st, .T) ∧ checkL sk (.pytree l s) .none st = (st, .T) :=
  ⟨rfl, rfl⟩

/-- **array leaves share bindings with one another and with the context**: with an array
    annotation as the leaf type, the verdict of the PyTree check is the verdict of checking the
    discovered leaves one after the other in the current context (which `C02_seq_iff` shows to be
    "one consistent assignment exists"), and an accepted tree leaves exactly those bindings -/
theorem C08_arrays (sk : Skel) (cls : String) (a : Ann) (ha : a.transparent = false) (x : Obj)
    (hx : x.noFault = true) (hn : x ≠ .none) (st : CState)
    (hst : st.flatten = false ∧ st.tp = none ∧ st.noCtx = false) :
    let leaves := (leavesWith (Obj.isArrOf cls) x).map fun o => (a, o.toArr cls)
    (checkL sk (.pytree (.arr cls a) none) x st).2 = (checkSeq sk.arrayCatch none leaves st.memo).1 ∧
    ((checkSeq sk.arrayCatch none leaves st.memo).1 = .T →
      (checkL sk (.pytree (.arr cls a) none) x st).1.memo = (checkSeq sk.arrayCatch none leaves st.memo).2) :=
  pytree_arrays_seq sk cls a ha x hx hn st hst

/-- a rejected tree binds nothing (instance of C04) -/
theorem C08_reject_binds_nothing (sk : Skel) (l : LType) (s : Option String) (x : Obj) (st : CState)
    (h : (checkL sk (.pytree l s) x st).2 = .F) : (checkL sk (.pytree l s) x st).1.memo = st.memo := by
  rw [checkL_pytree_eq] at h ⊢
  apply pytree_fail_restores
  rw [h]
  trivial

/-- the source read today asks the is-leaf test at every node of every flattening of the checked object (the
    model's `leavesWith` takes the test as given), releases the flattening flag in a `finally` and re-entrantly -/
theorem C08_generated_good :
    Generated.flattenPassesIsLeaf = true ∧ Generated.flattenInFinally = some true ∧
    Generated.flattenRestores = some true := by decide

/-! non-vacuity -/
private def sk0 : Skel := ⟨.baseException, .baseException, true, true, true, true⟩
-- a tuple that is itself an L counts as a leaf; None and empty containers contribute nothing
example : (checkL sk0 (.pytree (.tuple [.int, .int]) none)
    (.list [.tuple [.int 1, .int 2], .none, .tuple [], .dict ["k"] [.tuple [.int 3, .int 4]]]) {}).2 = .T := by decide +kernel
example : (checkL sk0 (.pytree (.tuple [.int, .int]) none) (.list [.tuple [.int 1, .str "x"]]) {}).2 = .F := by decide +kernel

/-- **the code as written today is the model's**: `_MetaPyTree.__instancecheck__` and `_check`, translated statement by
    statement from the current source on this run, compute `pytreeInstancecheck` with every structural fact true — for
    every value, every leaf check that hands the flatten-mode flag back as it found it (it may bind, answer False, raise),
    every structure string, every thread state, inside or outside a context; bare `PyTree` answers True and touches
    nothing. -/
theorem C08_source_instancecheck (env : TEnv) (ac : Catch) (hf : FlattenKept env.leafCheck) (st : CState) :
    runInstancecheck env Generated.instancecheckCode Generated.checkCode st =
      some (if env.bare then (st, .T)
            else pytreeInstancecheck (goodSkel ac) env.leafCheck env.leafAny env.S env.x st) :=
  source_tree_instancecheck env ac hf st

/-- `cls.leaftype is Any` -/
def isAnyL : LType → Bool
  | .any => true
  | _ => false

/-- … in particular for every leaf type of the model without a structure name inside: what the translated code computes
    for `isinstance(x, PyTree[l])` / `PyTree[l, S]` is `checkL` of the model, the function `C08_memofree_check`,
    `C08_nested`, `C08_arrays` and `C08_reject_binds_nothing` speak about -/
theorem C08_source_checkL (ac : Catch) (l : LType) (hl : FlagTransparent l) (S : Option String) (x : Obj) (st : CState) :
    runInstancecheck ⟨checkL (goodSkel ac) l, isAnyL l, S, x, false⟩
        Generated.instancecheckCode Generated.checkCode st
      = some (checkL (goodSkel ac) (.pytree l S) x st) := by
  rw [source_tree_instancecheck _ ac
    (fun y s' => (checkL_flags (goodSkel ac) ⟨⟨rfl, rfl⟩, rfl, rfl⟩ l hl y s').2)]
  rfl

end JV
