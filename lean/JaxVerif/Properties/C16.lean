/-
C16 — '?' axes are per-leaf-position axes of exactly one structured PyTree.
-/
import JaxVerif.Generated.Skeleton
import JaxVerif.Lemmas.Treepath
import JaxVerif.Source.Trees
import JaxVerif.Source.Storage

namespace JV

/-- the key of a `?name` axis at leaf `i` of the PyTree annotated with structure string `T` is its
    own key: different from the plain axis `name`, different for different leaf positions and for
    different structure strings -/
theorem C16_keys (i j : Nat) (t u x y : String) :
    keyOf (some (i, t)) x true = .ok (.leaf i t x) ∧ keyOf (some (i, t)) x false = .ok (.plain x) ∧
    Key.leaf i t x ≠ Key.plain y ∧
    (Key.leaf i t x = Key.leaf j u y ↔ i = j ∧ t = u ∧ x = y) := by
  refine ⟨rfl, rfl, ?_, ?_⟩
  · intro h; cases h
  · rw [Key.leaf.injEq]

/-- the strings the memo (and `print_bindings`) shows for these keys are distinct too, for axis
    names that are identifiers or empty and structure strings free of ')' -/
theorem C16_keys_rendered (k₁ k₂ : Key) (h₁ : k₁.WellFormed) (h₂ : k₂.WellFormed)
    (h : k₁.render = k₂.render) : k₁ = k₂ := by
  cases k₁ with
  | plain x =>
    cases k₂ with
    | plain y => exact congrArg Key.plain h
    | leaf j u y => exact absurd h (render_plain_ne_leaf h₁ j u y)
  | leaf i t x =>
    cases k₂ with
    | plain y => exact absurd h.symm (render_plain_ne_leaf h₂ i t x)
    | leaf j u y =>
      -- cut both renderings at the space after the digits and at the ')' after the structure string
      have hl := congrArg String.toList h
      rw [render_leaf_toList, render_leaf_toList] at hl
      have hl := List.append_cancel_left hl
      -- (`decide` on the two character lists costs more than twice as much)
      have e1 : " in structure ".toList = ' ' :: "in structure ".toList := by
        rw [show " in structure " = " " ++ "in structure " from rfl, String.toList_append]
        rfl
      rw [e1] at hl
      obtain ⟨hd, hr⟩ := append_sep_inj (space_not_in_toDigits i) (space_not_in_toDigits j) hl
      have hij := toDigits_inj hd
      have hr := List.append_cancel_left hr
      have e2 : ") ".toList = ')' :: " ".toList := by decide
      rw [e2] at hr
      obtain ⟨ht, hx⟩ := append_sep_inj h₁.2 h₂.2 hr
      have hx := List.append_cancel_left hx
      rw [hij, String.toList_inj.mp ht, String.toList_inj.mp hx]

/-- **independence**: the outcome of an array check made at `?`-position `tp` depends only on the
    bindings of plain axes and of `?` axes of that same position — never on `?` axes of other leaf
    positions or of other structure strings — and it changes no other binding -/
theorem C16_frame (tp : TreePath) (args : Args) (sh : Shape) (shape : List Nat)
    (σ₁ σ₂ : Single) (ν₁ ν₂ : Variadic)
    (hσ : ∀ k, Key.relevant tp k → σ₁.lookup k = σ₂.lookup k)
    (hν : ∀ k, Key.relevant tp k → ν₁.lookup k = ν₂.lookup k) :
    match checkShape tp args sh shape σ₁ ν₁, checkShape tp args sh shape σ₂ ν₂ with
    | .ok (σ₁', ν₁'), .ok (σ₂', ν₂') =>
        (∀ k, Key.relevant tp k → σ₁'.lookup k = σ₂'.lookup k ∧ ν₁'.lookup k = ν₂'.lookup k) ∧
        (∀ k, ¬ Key.relevant tp k → σ₁'.lookup k = σ₁.lookup k ∧ ν₁'.lookup k = ν₁.lookup k)
    | .fail, .fail => True
    | .annErr, .annErr => True
    | .exc e₁ _, .exc e₂ _ => e₁ = e₂
    | _, _ => False :=
  (checkShape_frame_rel hσ hν args sh shape).elim
    (fun _ _ h => ⟨fun k hk => ⟨h.1.1 k hk, h.1.2 k hk⟩, fun k hk => ⟨h.2.1 k hk, h.2.2 k hk⟩⟩)
    trivial trivial fun _ _ _ => rfl

/-- **errors**: a `?` axis met outside every structured PyTree raises AnnotationError (unless the
    `#` clause already accepted the axis); a structured PyTree met while the label of another one
    is set raises AnnotationError -/
theorem C16_errors (sk : Skel) (args : Args) (σ : Single) (x : String) (b : Bool) (n : Nat)
    (h : ¬ (b = true ∧ n = 1)) (lc : Obj → CState → CState × Verdict) (s : String) (y : Obj) (ys : List Obj)
    (i : Nat) (st : CState) (hst : st.tp.isSome = true) :
    checkDim none args σ (.named x b true) n = .annErr ∧
    leafLoop sk lc (some s) (y :: ys) i st = (st, .ANN) := by
  refine ⟨checkDim_named_ann h rfl, ?_⟩
  rw [leafLoop]
  simp only [hst, if_true]

/-- **always usable inside exactly one structured PyTree**: once the two flags are re-entrant
    (released only by the PyTree that set them), a leaf type built from arrays, classes, tuples,
    unions and structure-less PyTrees hands both flags through exactly — so every array check in it
    sees the leaf position the enclosing structured PyTree set -/
theorem C16_usable (sk : Skel) (hg : sk.Good ∧ sk.treepathGuarded = true ∧ sk.flattenRestores = true)
    (l : LType) (hl : FlagTransparent l) (x : Obj) (st : CState) :
    (checkL sk l x st).1.tp = st.tp ∧ (checkL sk l x st).1.flatten = st.flatten :=
  checkL_flags sk hg l hl x st

/-- the source read today has re-entrant flags -/
theorem C16_generated_good :
    Generated.treepathGuarded = some true ∧ Generated.flattenRestores = some true := by decide

/-- each fact matters: `PyTree[PyTree[Shaped[A, "?foo"]], "T"]` raises AnnotationError — on a
    one-leaf tree when the inner, structure-less PyTree switches the outer one's flatten mode off,
    on a two-leaf tree when it clears the outer one's leaf label -/
theorem C16_facts_matter :
    let good : Skel := ⟨.baseException, .baseException, true, true, true, true⟩
    let ann : LType := .pytree (.pytree (.arr "" { dtypes := .any, shape := { pre := [.named "foo" false true], var := none } }) none) (some "T")
    let a3 : Obj := .arr "D" { isInst := true, dtype := "f", shape := [3] }
    (checkL good ann (.tuple [a3]) { noCtx := false }).2 = .T ∧
    (checkL good ann (.tuple [a3, a3]) { noCtx := false }).2 = .T ∧
    (checkL { good with treepathGuarded := false } ann (.tuple [a3, a3]) { noCtx := false }).2 = .ANN ∧
    (checkL { good with flattenRestores := false } ann (.tuple [a3]) { noCtx := false }).2 = .ANN := by
  decide +kernel

/-- **the `?`-leaf label, as set and cleared today**: in the translated `_check` the label is set per leaf only by a PyTree
    with a structure name (an AnnotationError if one is already set), cleared after each accepted leaf and in the
    `finally` of the loop by that PyTree only — the model's `leafLoop` with the guard — for every value, leaf check,
    structure string and state. -/
theorem C16_source_label (env : TEnv) (ac : Catch) (hf : FlattenKept env.leafCheck) (st : CState) :
    runInstancecheck env Generated.instancecheckCode Generated.checkCode st =
      some (if env.bare then (st, .T)
            else pytreeInstancecheck (goodSkel ac) env.leafCheck env.leafAny env.S env.x st) :=
  source_tree_instancecheck env ac hf st

/-- the label cell itself, from the source read today (`clear_` / `set_` / `get_treepath_memo` of `_storage.py`): the label
    stored for a leaf is built from THIS leaf index and THIS structure name, a second label on top of one is an
    AnnotationError, reading without one is an AnnotationError (the two errors of the property), for every content of the
    thread's cell including a thread that never touched it -/
theorem C16_source_label_cell (ctx : KCtx) (cell : Option KVal) (h : TreepathCellOk cell) :
    runCellFn Generated.treepathFuns ctx Generated.clearTreepathCode cell = some (some .none, .inl .none) ∧
    runCellFn Generated.treepathFuns ctx Generated.setTreepathCode cell
      = (match cell with
         | some (.label _ _) => some (cell, .inr ())
         | _ => some (some (.label ctx.index ctx.sname), .inl .none)) ∧
    runCellFn Generated.treepathFuns ctx Generated.getTreepathCode cell
      = (match cell with
         | some (.label i S) => some (cell, .inl (.label i S))
         | _ => some (cell, .inr ())) :=
  source_cell_treepath ctx cell h

/-- REFINEMENT, from the source read today: every history of clearing, setting and reading the `?`-leaf label — the ones
    that raise AnnotationError included, after which the history goes on — runs on the translated `_storage.py` functions
    with exactly the abstract machine's sequence of errors and ends in a cell that stands for the abstract label (by
    induction over the history, Source/Storage.lean) -/
theorem C16_source_label_history (ops : List LabelOp) (c : Option KVal) (h : LeafCellOk c) :
    ∃ c', runLabelImpl ops c = some (c', (runLabelSpec ops (tpOfCell c)).2) ∧ tpOfCell c' = (runLabelSpec ops (tpOfCell c)).1 :=
  source_cell_treepath_history ops c h

/-- a non-trivial history: label a leaf, read it, try to label on top (error), clear, read without a label (error) -/
example : runLabelSpec [.set 0 "T", .get, .set 1 "T", .clear, .get] none = (none, [false, false, true, false, true]) := by
  simp [runLabelSpec, LabelOp.spec]

end JV
