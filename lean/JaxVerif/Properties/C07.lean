/-
C07 — on well-typed calls a decorated function is indistinguishable from the original.
(The wrapper's control flow and its name generation; attribute/descriptor preservation is
functools.wraps / descriptor unwrapping and is checked on the implementation only.)
-/
import JaxVerif.Generated.Skeleton
import JaxVerif.Lemmas.Wrapper
import JaxVerif.Lemmas.Errors
import JaxVerif.Lemmas.Sig
import JaxVerif.Source.Wrappers

namespace JV

/-- `_gensym` terminates and its result is fresh, for every finite set of names -/
theorem C07_gensym_fresh (names : List String) (pre : String) : gensym names pre ∉ names :=
  gensym_fresh names pre

/-- and it is the prefix followed by a decimal index -/
theorem C07_gensym_form (names : List String) (pre : String) : ∃ i : Nat, gensym names pre = pre ++ toString i :=
  gensymFrom_form names pre names.length 0

/-- **the generated scope is well formed**: every identifier the wrapper invents (annotation names,
    default names, the extra `ret` parameter) is distinct from every other invented identifier, from
    every parameter name and from the function's own name — whatever the parameters are called
    (`T0`, `default0`, `ret0`, the function's name, …) -/
theorem C07_scope_wellformed (fnName : String) (paramNames : List String) (output : Bool)
    (hnd : paramNames.Nodup) :
    let (ps, scope) := generatedNames fnName paramNames output
    ps.Nodup ∧ scope.Nodup ∧ (∀ x ∈ scope.drop 1, x ∉ ps) := by
  simp only [generatedNames]
  have h0 : ∀ ps, ScopeOk ps [fnName] := fun ps => ⟨by simp, by simp, by simp⟩
  refine ⟨?_, (genScope_ok (h0 _)).2.1, (genScope_ok (h0 _)).2.2⟩
  cases output with
  | false => simpa using hnd
  | true => exact nodup_concat hnd (gensym_fresh paramNames "ret")

/-- **the synthesised checking function binds arguments exactly as the original does**: the
    parameter list `_make_fn_with_signature` renders (positional-only group and `/`, positional-or-
    keyword group, `*name` or a bare `*` when keyword-only parameters follow, keyword-only group with
    the fresh output parameter appended, `**name`), read back the way Python reads a parameter list,
    is the original signature — every parameter with its own name, kind and default-presence, in
    order — plus that one keyword-only parameter. So a call binds to the one iff it binds to the
    other, to the same parameters. -/
theorem C07_same_signature (c : CSig) (h : c.WF) (extra : List SParam) (he : ∀ p ∈ extra, p.kind = .kwOnly) :
    parsePieces (renderSig c.toList extra) = c.pos ++ c.pok ++ c.vp ++ (c.key ++ extra) ++ c.vk := by
  have hp := parse_render c.toList extra
  simp only [c.ofKind_toList h, reduceCtorEq, if_true, if_false, List.append_nil, List.nil_append] at hp
  exact hp h.vp1 h.vk1 he

/-- **exactly once / not at all**: on a new-style call that binds, the body starts exactly once
    when the parameter pass accepts (whatever happens afterwards) and not at all when it rejects -/
theorem C07_once (sk : Skel) (w : WrapSkel) (hw : w.disableTestFirst = true) (ps : List Param)
    (ret : Option (LType × Obj)) (e : Exit) (st : TState) (hd : st.disable = false) :
    let st1 : TState := { st with stack := { args := argsOf ps } :: st.stack }
    let obs := (runProg sk w (.call .newStyle ps ret true false [] e) st).2
    ((checkParams sk ps st1).2.1 = .T → obs.count .bodyStart = 1) ∧
    ((checkParams sk ps st1).2.1 ≠ .T → obs.count .bodyStart = 0) := by
  intro st1 obs
  have hr : obs = (callStep sk w .newStyle ps ret true false (runProgs sk w []) e st).2 :=
    congrArg Prod.snd (runProg_call_eq ..)
  constructor
  · intro hT
    obtain ⟨tail, o, ht, ho, _⟩ := callStep_new_T w ret (runProgs sk w []) e hd hT
    rw [hr, ho]
    exact (List.count_cons_self ..).trans (congrArg (· + 1) (count_bodyStart_tail tail o ht))
  · intro hT
    obtain ⟨tail, o, ht, ho, _⟩ := callStep_new_notT w ret (runProgs sk w []) e hd hT
    rw [hr, ho]
    exact count_bodyStart_tail tail o ht

/-- a call that does not bind to the signature raises the ordinary TypeError before any context
    is opened and before the body -/
theorem C07_bind_error (sk : Skel) (w : WrapSkel) (hw : w.newBindBeforePush = true) (k : CallKind)
    (hw' : w.oldBindBeforePush = true)
    (ps : List Param) (ret : Option (LType × Obj)) (noTc : Bool) (body : List Prog) (e : Exit) (st : TState) :
    runProg sk w (.call k ps ret false noTc body e) st = (st, [Obs.outcome .bindError]) := by
  have hb : w.bindBeforePush k = true := by cases k <;> assumption
  rw [runProg_call_eq, callStep_eq, hb]
  simp only [Bool.false_eq_true, if_false, if_true, ite_self]

/-- the body's own result or exception is what the caller gets when all checks pass -/
theorem C07_result_passthrough (sk : Skel) (w : WrapSkel) (hw : w.disableTestFirst = true) (ps : List Param)
    (e : Exit) (st : TState) (hd : st.disable = false)
    (h : (checkParams sk ps { st with stack := { args := argsOf ps } :: st.stack }).2.1 = .T)
    (he : e ≠ .ret) :
    (runProg sk w (.call .newStyle ps none true false [] e) st).2 = [Obs.bodyStart, Obs.outcome (exitOutcome e)] := by
  obtain ⟨tail, o, _, ho, _, hex⟩ := callStep_new_T w none (runProgs sk w []) e hd h
  obtain ⟨rfl, rfl⟩ := hex (.inl he)
  rw [runProg_call_eq, ho]
  rfl

/-- the source read today calls the wrapped function at exactly one place of `wrapped_fn_impl` -/
theorem C07_generated_good :
    Generated.implFnCalls = 1 ∧ Generated.implFnCallArgs = ["*args, **kwargs"] := by decide

/-! non-vacuity: parameters named like the generated identifiers -/
example : parsePieces (renderSig [⟨"a", .posOnly, false⟩, ⟨"b", .posOrKw, true⟩, ⟨"k", .kwOnly, false⟩, ⟨"kw", .varKw, false⟩] [⟨"ret0", .kwOnly, false⟩]) =
    [⟨"a", .posOnly, false⟩, ⟨"b", .posOrKw, true⟩, ⟨"k", .kwOnly, false⟩, ⟨"ret0", .kwOnly, false⟩, ⟨"kw", .varKw, false⟩] := by decide +kernel
example : renderSig [⟨"b", .posOrKw, false⟩] [⟨"ret0", .kwOnly, false⟩] = [.param ⟨"b", .posOrKw, false⟩, .star, .param ⟨"ret0", .kwOnly, false⟩] := by decide +kernel
example : (generatedNames "T0" ["T0", "default0", "ret0", "T1"] true).1 = ["T0", "default0", "ret0", "T1", "ret1"] := by decide +kernel
example : gensym ["T0", "T1", "x"] "T" = "T2" := by decide +kernel

/-- **the wrapper as written today is the model's**: `wrapped_fn` and `wrapped_fn_impl`, translated from the current
    source on this run, compute for every program term exactly what `runProg` computes for a new-style call — so
    `C07_once`, `C07_bind_error` and `C07_result_passthrough` are statements about the code the source contains
    (the interpreter crashes if the result of the body is dropped, if `fn` is called before it is bound, or if a
    name is read before it is assigned). -/
theorem C07_source_wrapper (sk : Skel) (ps : List Param) (ret : Option (LType × Obj)) (bindOk noTc rs nw : Bool)
    (body : List Prog) (e : Exit) (st : TState) :
    runWrapper ⟨sk, ps, ret, bindOk, noTc, runProgs sk goodWrap body, e, rs, nw, none, .plain, Generated.newImplCode⟩
        Generated.newWrapperCode st
      = some (runProg sk goodWrap (.call .newStyle ps ret bindOk noTc body e) st) := by
  rw [source_new_wrapper, runProg_call_eq]

end JV
