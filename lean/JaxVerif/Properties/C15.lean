/-
C15 — nested, union, TypeVar and scalar annotations obey the documented laws.
The model (`Model/Make.lean`) mirrors `_MetaAbstractDtype.__getitem__`, `_make_array`,
`_make_array_cached` and `_check_scalar`. A made annotation is checked through its `core`
(array type, dtypes, axes, multi-axis index) only, so equal cores accept the same values in every
context.
-/
import JaxVerif.Lemmas.Make
import JaxVerif.Generated.Make

namespace JV

/-- **nesting, at any depth**: the inner annotation `m₁` may itself be nested (every annotation that can be
    built satisfies `WF`, `C15_closed`); wrapped in category `D₂` with string `s₂` it is, for every check, the
    flat annotation over its array type with the intersected dtypes and the string
    `s₂ ++ " " ++ m₁.dim_str` — including when either side is an error -/
theorem C15_nest_deep (D₂ : Category) (m₁ : Made) (hw : m₁.WF) (s₂ : List Char) :
    (makeArray D₂ (.made m₁) s₂).toCore =
      match DtypeSpec.inter D₂.dtypes m₁.dtypes with
      | none => .valueError
      | some dt => (makeArray ⟨D₂.name, dt⟩ (atomOf m₁.arrayType) (s₂ ++ ' ' :: m₁.dimStr)).toCore := by
  rw [makeArray_made D₂ m₁ hw]
  cases DtypeSpec.inter D₂.dtypes m₁.dtypes with
  | none => rfl
  | some dt =>
    dsimp only
    rw [makeArray_atomOf]
    cases parseSpec (s₂ ++ ' ' :: m₁.dimStr) <;> rfl

/-- **nesting**: `D₂[D₁[A, s₁], s₂]` is, for every check, the flat annotation
    `(D₁ ∩ D₂)[A, s₂ ++ " " ++ s₁]` — and an error exactly when that one is, or the dtypes do not
    overlap -/
theorem C15_nest (D₁ D₂ : Category) (A : String) (s₁ s₂ : List Char) (m₁ : Made)
    (h₁ : makeArray D₁ (atomOf A) s₁ = .made m₁) :
    (makeArray D₂ (.made m₁) s₂).toCore =
      match DtypeSpec.inter D₂.dtypes D₁.dtypes with
      | none => .valueError
      | some dt => (makeArray ⟨D₂.name, dt⟩ (atomOf A) (s₂ ++ ' ' :: s₁)).toCore := by
  rw [makeArray_atomOf] at h₁
  cases hp : parseSpec s₁ with
  | none => rw [hp] at h₁; cases h₁
  | some p =>
    rw [hp] at h₁
    cases h₁
    exact C15_nest_deep D₂ _ ⟨hp, id⟩ s₂

theorem C15_closed (cat : Category) (a : Atom) (s : List Char) (m : Made)
    (ha : ∀ inner, a = .made inner → inner.WF) (h : makeArray cat a s = .made m) : m.WF :=
  makeArray_wf cat a s m ha h

/-- `D₁ ∩ D₂` accepts exactly the dtypes both accept -/
theorem C15_nest_dtypes (o i r : DtypeSpec) (h : DtypeSpec.inter o i = some r) (d : String) :
    r.accepts d = (o.accepts d && i.accepts d) := by
  have := inter_accepts o i d
  rw [h] at this
  exact this

/-- **nesting errors**: exactly when the outer string is malformed, both parts list dtypes with
    nothing in common, or both parts have a multi-axis specifier -/
theorem C15_nest_error (D₂ : Category) (m₁ : Made) (s₂ : List Char) :
    makeArray D₂ (.made m₁) s₂ = .valueError ↔
      parseSpec s₂ = none ∨
      (∃ l l', D₂.dtypes = .names l ∧ m₁.dtypes = .names l' ∧ ∀ d, ¬ (d ∈ l ∧ d ∈ l')) ∨
      (∃ dims j, parseSpec s₂ = some (dims, some j) ∧ m₁.iv.isSome = true) := by
  rw [nest_error_iff, inter_none_iff]

/-- **unions**: `D[Union[a₁, …, aₙ], s]` accepts exactly what `Union[D[a₁, s], …, D[aₙ, s]]`
    accepts (members that do not exist — scalar types the category or shape excludes — drop out),
    whatever the check of one made annotation / scalar type is -/
theorem C15_union {V : Type} (chk : Core → V → Bool) (sc : ScalarTy → V → Bool)
    (cat : Category) (as : List Atom) (s : List Char)
    (h : getitem cat (.union as) s ≠ .valueError) (v : V) :
    GetOut.accepts chk sc (getitem cat (.union as) s) v =
      as.any (fun a => GetOut.accepts chk sc (getitem cat (.atom a) s) v) := by
  show GetOut.accepts chk sc (getitemAtoms cat as (stripWs s)) v =
    as.any fun a => GetOut.accepts chk sc (getitemAtoms cat [a] (stripWs s)) v
  cases hg : getitemAtoms cat as (stripWs s) with
  | valueError => exact absurd hg h
  | alts l =>
    simp only [getitemAtoms_alts hg, getitemAtoms_single, GetOut.accepts, List.any_filterMap]
    congr
    funext a
    cases (makeArray cat a (stripWs s)).alt? with
    | none => rfl
    | some alt => exact (Bool.or_false _).symm

/-- the union is an error exactly when a member is an error of its own or no member exists -/
theorem C15_union_error (cat : Category) (as : List Atom) (s : List Char) :
    getitem cat (.union as) s = .valueError ↔
      (∃ a ∈ as, makeArray cat a (stripWs s) = .valueError) ∨
      (∀ a ∈ as, (makeArray cat a (stripWs s)).alt? = none) :=
  getitemAtoms_error_iff cat as (stripWs s)

/-- **TypeVars**: a TypeVar stands for its bound, the union of its constraints, or `Any` -/
theorem C15_typevar (cat : Category) (a : Atom) (as : List Atom) (s : List Char) :
    getitem cat (.tvBoundAtom a) s = getitem cat (.atom a) s ∧
    getitem cat (.tvBoundUnion as) s = getitem cat (.union as) s ∧
    getitem cat (.tvConstr as) s = getitem cat (.union as) s ∧
    getitem cat .tvFree s = getitem cat (.atom .any) s :=
  ⟨rfl, rfl, rfl, rfl⟩

/-- **scalars**: `bool / int / float / complex` (and the NumPy scalar bases) survive exactly for
    shapes that admit rank 0 and categories holding a dtype whose name starts with the scalar's
    prefix; otherwise the annotation is an error -/
theorem C15_scalar (cat : Category) (sc : ScalarTy) (str : List Char) :
    getitem cat (.atom (.scalar sc)) str =
      match parseSpec str with
      | none => .valueError
      | some (dims, iv) =>
        if rankOk dims iv 0 &&
            (match cat.dtypes with
             | .any => true
             | .names l => l.any (fun d => sc.pre.isPrefixOf d.toList))
        then .alts [.scalar sc] else .valueError := by
  show getitemAtoms cat [.scalar sc] (stripWs str) = _
  rw [getitemAtoms_single]
  unfold makeArray
  rw [parseSpec_strip]
  cases hp : parseSpec str with
  | none => rfl
  | some p =>
    obtain ⟨dims, iv⟩ := p
    have hb : checkScalar sc.pre cat.dtypes dims = (rankOk dims iv 0 &&
        (match cat.dtypes with
         | .any => true
         | .names l => l.any (fun d => sc.pre.isPrefixOf d.toList))) := by
      unfold checkScalar
      rw [Bool.eq_iff_iff.mpr (all_variadic_iff_rank0 str dims iv hp)]
      cases cat.dtypes <;> rfl
    dsimp only
    rw [← hb]
    cases checkScalar sc.pre cat.dtypes dims <;> rfl

/-- what the current source does (re-extracted on every run): the scalar ladder and its prefixes,
    outer-before-inner concatenation of axes and strings, the shift of the inner multi-axis
    index, the dtype filter, the strip of the dim string; and the aliases `Scalar`, `ScalarLike`,
    `PRNGKeyArray` as documented in docs/api/array.md -/
theorem C15_generated_good :
    Generated.scalarLadder =
      [("bool", String.ofList ScalarTy.pyBool.pre), ("int", String.ofList ScalarTy.pyInt.pre),
       ("float", String.ofList ScalarTy.pyFloat.pre), ("complex", String.ofList ScalarTy.pyComplex.pre),
       ("np.bool_", String.ofList ScalarTy.npBool.pre), ("np.generic", String.ofList ScalarTy.npGeneric.pre),
       ("np.number", String.ofList ScalarTy.npNumber.pre)] ∧
    Generated.nestDimsOuterFirst = true ∧ Generated.nestStrOuterFirst = true ∧
    Generated.nestVariadicShift = true ∧ Generated.nestDtypesFilter = true ∧
    Generated.nestDtypesAnyTakesInner = true ∧ Generated.stripsDimStr = true := by decide +kernel

theorem C15_aliases :
    Generated.aliases =
      [("PRNGKeyArray", [("Key", "Array", ""), ("UInt32", "Array", "2")]),
       ("Scalar", [("Shaped", "Array", "")]),
       ("ScalarLike", [("Shaped", "ArrayLike", "")])] := rfl

/-! non-vacuity -/
private def floatC : Category := ⟨"Float", .names ["float16", "float32"]⟩
private def realC : Category := ⟨"Real", .names ["float32", "int32"]⟩
private def boolC : Category := ⟨"Bool", .names ["bool"]⟩
example : ∃ m₁ m₂, makeArray floatC (.cls "A") "a *b".toList = .made m₁ ∧
    makeArray realC (.made m₁) "c".toList = .made m₂ ∧
    m₂.dtypes = .names ["float32"] ∧ m₂.iv = some 2 ∧ m₂.dimStr = "c a *b".toList := ⟨_, _, rfl, rfl, by decide +kernel⟩
example : ∃ m₁, makeArray floatC (.cls "A") "a".toList = .made m₁ ∧
    makeArray boolC (.made m₁) "c".toList = .valueError := ⟨_, rfl, by decide +kernel⟩
example : getitem floatC (.atom (.scalar .pyFloat)) "...".toList = .alts [.scalar .pyFloat] ∧
    getitem floatC (.atom (.scalar .pyFloat)) "a".toList = .valueError ∧
    getitem floatC (.atom (.scalar .pyInt)) "".toList = .valueError := by decide +kernel
example : getitem floatC (.union [.cls "A", .scalar .pyInt, .scalar .pyFloat]) " ".toList =
    .alts [.made ⟨floatC, "A", [], floatC.dtypes, [], none⟩, .scalar .pyFloat] := by decide +kernel

end JV
