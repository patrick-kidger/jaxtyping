/-
C11 — the import hook instruments exactly the named packages, only while installed.
-/
import JaxVerif.Generated.Hook
import JaxVerif.Lemmas.HookScope
import JaxVerif.Generated.HookCode

namespace JV

/-- a well-formed dotted name: no empty component -/
def WfName (m : MName) : Prop := ∀ c ∈ splitDots m, c ≠ []

/-- **dotted-prefix, not string-prefix**: a module is in scope exactly when the components of one
    hooked name are a prefix of its components (so `foobar` is not beneath `foo`) -/
theorem C11_dotted (hooked : List MName) (m : MName) (hm : WfName m) (hh : ∀ h ∈ hooked, WfName h) :
    shouldInstrument hooked m = true ↔ ∃ h ∈ hooked, (splitDots h).isPrefixOf (splitDots m) = true := by
  rw [shouldInstrument_eq_components, List.any_eq_true]

/-- already-loaded modules never change status -/
theorem C11_loaded_stable (s : ImportState) (ops : List ImportOp) (m : MName) (k : LoadKind)
    (h : s.loaded.lookup m = some k) : (importRun s ops).loaded.lookup m = some k := by
  induction ops generalizing s with
  | nil => exact h
  | cons op ops ih => exact ih (importStep s op) (importStep_lookup_stable op h)

/-- **first import decides, for every history**: after any sequence of install / uninstall /
    import operations, a loaded module is instrumented exactly if at its *first* import some
    installed hook was in scope, with the checker of the front-most (most recently installed) such
    hook; nothing that happens later changes it -/
theorem C11_history (s : ImportState) (ops₁ ops₂ : List ImportOp) (m : MName)
    (hfresh : (importRun s ops₁).loaded.lookup m = none) :
    (importRun s (ops₁ ++ .importMod m :: ops₂)).loaded.lookup m =
      some (match firstMatch (importRun s ops₁).metaPath m with
            | some h => .instrumented h.checker
            | none => .plain) := by
  rw [importRun_append]
  exact C11_loaded_stable _ ops₂ m _ (importStep_fresh hfresh)

/-- after `uninstall` (or leaving the with-block) a hook claims nothing: a module imported then
    is instrumented only if some *other* installed hook is in scope -/
theorem C11_uninstalled (s : ImportState) (id : Nat) (m : MName) :
    firstMatch (importStep s (.uninstall id)).metaPath m =
      firstMatch (s.metaPath.filter (fun h => h.id != id)) m ∧
    (∀ h, firstMatch (importStep s (.uninstall id)).metaPath m = some h → h.id ≠ id) := by
  refine ⟨rfl, fun h hh => ?_⟩
  have hmem : h ∈ s.metaPath.filter (fun h => h.id != id) := firstMatch_mem hh
  simpa using (List.mem_filter.1 hmem).2

/-- with no hook installed everything loads unmodified -/
theorem C11_no_hook (s : ImportState) (m : MName) (h : s.metaPath = []) (hf : s.loaded.lookup m = none) :
    (importStep s (.importMod m)).loaded.lookup m = some .plain := by
  rw [importStep_fresh hf, h]
  rfl

/-- the checker key is a function of the checker string; `None` is `"0"`; distinct strings have
    distinct keys (md5 modelled as injective) -/
theorem C11_lookup (a b : Option String) : checkerKey a = checkerKey b ↔ a = b := by
  refine ⟨fun h => ?_, fun h => h ▸ rfl⟩
  -- the keys are compared as character lists: "0" is not "md5:…", and "md5:" cancels
  have h := congrArg String.toList h
  cases a <;> cases b <;> simp [checkerKey, String.toList_append] at h
  · rfl
  · rw [String.toList_inj.1 h]

/-- the predicate the current source uses (re-extracted on every run) -/
theorem C11_generated_good :
    Generated.hookShouldInstrument = "eq_or_dotted_prefix" ∧ Generated.hookInsertsAtFront = true ∧
    Generated.hookUninstallRemoves = true ∧ Generated.hookOnlySourceLoaders = true ∧
    Generated.hookAlwaysTransforms = true :=
  ⟨rfl, rfl, rfl, rfl, rfl⟩

/-! non-vacuity -/
example : shouldInstrument ["foo".toList] "foo.bar".toList = true ∧ shouldInstrument ["foo".toList] "foobar".toList = false ∧
    shouldInstrument ["foo.bar".toList] "foo".toList = false ∧ shouldInstrument ["foo".toList, "bar.baz".toList] "bar.baz.q".toList = true := by decide +kernel

/-! ### the finder's two methods as written today -/

theorem source_should_step (env : FEnv) (h : MName) (s : FSt) :
    Generated.shouldLoopBody.run env (fun _ _ => .crash) { s with cur := some h } =
      if (env.name == h || (h ++ ['.']).isPrefixOf env.name) then .retB true else .normal { s with cur := some h } := by
  simp only [Generated.shouldLoopBody, FStmt.run, FCond.eval, Option.map]
  cases env.name == h <;> cases (h ++ ['.']).isPrefixOf env.name <;> rfl

/-- a loop whose body returns True at the first name satisfying `p` and otherwise falls through is `any p` -/
theorem runModules_any (env : FEnv) (body : FStmt) (p : MName → Bool)
    (hbody : ∀ h (s : FSt), body.run env (fun _ _ => .crash) { s with cur := some h } =
      if p h then .retB true else .normal { s with cur := some h }) :
    ∀ (hs : List MName) (s : FSt),
      runModules env body hs s = if hs.any p then .retB true else .normal { s with cur := none }
  | [], s => rfl
  | h :: hs, s => by
    rw [runModules, hbody, List.any_cons]
    cases p h
    · exact runModules_any env body p hbody hs _
    · rfl

/-- **`should_instrument` as written today**: the method translated from the current source on this run — its loop over the
    hooked names unrolled by induction — is the model's dotted-prefix predicate, for EVERY list of hooked names and every
    module name. `C11_dotted` is therefore a statement about the code the source contains. -/
theorem C11_source_should (modules : List MName) (m : MName) :
    runShould Generated.shouldCode modules m = some (shouldInstrument modules m) := by
  unfold runShould runMethod Generated.shouldCode shouldInstrument
  simp only [FStmt.run, runModules_any _ _ _ (source_should_step _)]
  cases modules.any (fun h => m == h || (h ++ ['.']).isPrefixOf m) <;> rfl

/-- **`find_spec` as written today**: the translated method claims a module (hands back a spec whose loader is the jaxtyping
    loader) exactly when `should_instrument` says so AND the wrapped path finder found a module loaded from source; in every
    other case it returns None (never a spec with the original loader, never an exception for a missing module). -/
theorem C11_source_find_spec (should : Bool) (orig : Option Bool) :
    runFindSpec Generated.findSpecCode should orig = some (should && orig == some true) := by
  cases should <;> rcases orig with _ | _ | _ <;> rfl

end JV
