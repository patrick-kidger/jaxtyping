/-
C19 — disabling checks makes decorated code behave exactly like plain code.
-/
import JaxVerif.Generated.Skeleton
import JaxVerif.Lemmas.DecEq
import JaxVerif.Lemmas.Disable
import JaxVerif.Source.Wrappers
import JaxVerif.Generated.ConfigCode

namespace JV

/-- the switches accept booleans and the strings 0/1/true/false in any (ASCII) case; every other
    string and every other object is rejected with ValueError -/
theorem C19_parse (v : CfgVal) :
    (str2bool v = some true ↔ v = .bool true ∨ ∃ s, v = .str s ∧ (lowerStr s = ['1'] ∨ lowerStr s = ['t', 'r', 'u', 'e'])) ∧
    (str2bool v = some false ↔ v = .bool false ∨ ∃ s, v = .str s ∧ (lowerStr s = ['0'] ∨ lowerStr s = ['f', 'a', 'l', 's', 'e'])) := by
  cases v with
  | bool b => cases b <;> simp [str2bool]
  | other => simp [str2bool]
  | str s =>
    rw [str2bool_str]
    simp only [reduceCtorEq, false_or, CfgVal.str.injEq, exists_eq_left']
    generalize lowerStr s = l
    split
    · next h0 => rcases h0 with rfl | rfl <;> decide
    · split
      · next h1 => rcases h1 with rfl | rfl <;> decide
      · next h0 h1 => simp [h0, h1]

/-- explicit form of "in any case": a string is accepted iff it has the length of one of the four
    words and agrees with it character by character up to ASCII case -/
theorem C19_any_case (s : List Char) :
    (str2bool (.str s)).isSome = true ↔
      ∃ word ∈ [['0'], ['1'], ['t', 'r', 'u', 'e'], ['f', 'a', 'l', 's', 'e']],
        s.length = word.length ∧ ∀ i (h : i < s.length) (h' : i < word.length), lowerAscii s[i] = word[i] := by
  simp only [← lowerStr_eq_iff, List.mem_cons, List.not_mem_nil, or_false, exists_eq_or_imp,
    exists_eq_left]
  rw [str2bool_str]
  generalize lowerStr s = l
  split
  · next h0 => exact iff_of_true rfl (h0.elim .inl fun h => .inr (.inr (.inr h)))
  · split
    · next h1 => exact iff_of_true rfl (.inr (h1.elim .inl fun h => .inr (.inl h)))
    · next h0 h1 =>
      refine iff_of_false nofun ?_
      rintro (h | h | h | h)
      · exact h0 (.inl h)
      · exact h1 (.inl h)
      · exact h1 (.inr h)
      · exact h0 (.inr h)

/-- an unknown configuration item is rejected; a known one (any case) updates exactly its flag -/
theorem C19_update (item : List Char) (v : CfgVal) (c : Cfg) :
    (lowerStr item ≠ "jaxtyping_disable".toList → lowerStr item ≠ "jaxtyping_remove_typechecker_stack".toList →
        cfgUpdate item v c = none) ∧
    (lowerStr item = "jaxtyping_disable".toList →
        cfgUpdate item v c = (str2bool v).map fun b => { c with disable := b }) :=
  ⟨fun h1 h2 => by simp only [cfgUpdate, h1, h2, if_false], fun h1 => by simp only [cfgUpdate, h1, if_true]⟩

/-- **disabled ≡ plain code**: with the flag set — or `no_type_check` on the function or on the
    wrapper — a new-style decorated call is the bare call: same body, same result or exception,
    no context pushed, no binding against the signature beyond Python's own, for every argument
    list, ill-typed ones included -/
theorem C19_disabled_equiv (sk : Skel) (w : WrapSkel) (hw : w.disableTestFirst = true)
    (ps : List Param) (ret : Option (LType × Obj)) (bindOk noTc : Bool) (body : List Prog) (e : Exit)
    (st : TState) (hoff : st.disable = true ∨ noTc = true) :
    runProg sk w (.call .newStyle ps ret bindOk noTc body e) st =
      if bindOk then
        ((runProgs sk w body st).1, [Obs.bodyStart] ++ (runProgs sk w body st).2 ++ [Obs.outcome (exitOutcome e)])
      else (st, [Obs.outcome .bindError]) := by
  have hcond : (w.disableTestFirst && (st.disable || noTc)) = true := by
    rcases hoff with h | h <;> simp [hw, h]
  rw [runProg_call_eq, callStep_eq, if_pos ⟨rfl, hcond⟩]

/-- the flag is read at every call: toggling needs no re-decoration -/
theorem C19_toggle (sk : Skel) (w : WrapSkel) (b : Bool) (p : Prog) (st : TState) :
    runProgs sk w [.setDisable b, p] st = runProgs sk w [p] { st with disable := b } :=
  rfl

/-- the source read today tests the switches before binding and pushing -/
theorem C19_generated_good : Generated.disableTestFirst = some true := by decide

/-- the test matters: evaluated too late, a disabled call still opens a context in which the body's
    own manual checks see fresh bindings instead of the caller's -/
theorem C19_late_test_differs :
    let sk : Skel := ⟨.baseException, .baseException, true, true, true, true⟩
    let good : WrapSkel := ⟨true, true, true, true, true, true, true, true⟩
    let prog : List Prog := [.ctx [.check (.arr "" { dtypes := .any, shape := { pre := [.named "a" false false], var := none } })
                                      (.arr "D" { isInst := true, dtype := "f", shape := [2] }),
                                   .call .newStyle [] none true false [.print] .ret] .ret]
    (runProgs sk good prog { disable := true }).2 ≠
    (runProgs sk { good with disableTestFirst := false } prog { disable := true }).2 := by
  decide

/-! non-vacuity -/
example : str2bool (.str "TrUe".toList) = some true ∧ str2bool (.str "FALSE".toList) = some false ∧
    str2bool (.str "yes".toList) = none ∧ str2bool (.str "".toList) = none ∧ str2bool .other = none := by decide +kernel

/-- **the switch as tested today**: with `jaxtyping_disable` set or `__no_type_check__` present, the new-style wrapper
    translated from the current source on this run does nothing but call the function — no bind, no context, no
    typechecker: the thread state is what the body leaves, the observations are the body's. -/
theorem C19_source_disabled (sk : Skel) (ps : List Param) (ret : Option (LType × Obj)) (bindOk noTc rs nw : Bool)
    (B : TState → TState × List Obs) (e : Exit) (st : TState) (h : (st.disable || noTc) = true) :
    runWrapper ⟨sk, ps, ret, bindOk, noTc, B, e, rs, nw, none, .plain, Generated.newImplCode⟩ Generated.newWrapperCode st
      = some (if bindOk then ((B st).1, [.bodyStart] ++ (B st).2 ++ [.outcome (exitOutcome e)])
              else (st, [.outcome .bindError])) := by
  rw [source_new_wrapper, callStep_eq, if_pos ⟨rfl, by rw [h]; rfl⟩]

/-- **the switch parser as written today**: `_maybestr2bool`, translated from the current source on this run, computes the
    model's `str2bool` for every value — booleans, every string (ASCII, see Model/Config.lean), every other object; `none` inside
    is ValueError. `C19_parse` and `C19_any_case` are therefore statements about the code the source contains. -/
theorem C19_source_parse (v : CfgVal) : runParse Generated.str2boolCode v = some (str2bool v) := by
  cases v with
  | bool b => simp [runParse, Generated.str2boolCode, CStmt.runParse, CCond.eval, str2bool]
  | other => simp [runParse, Generated.str2boolCode, CStmt.runParse, CCond.eval, str2bool]
  | str s =>
    simp only [runParse, Generated.str2boolCode, CStmt.runParse, CCond.eval, CExp.eval, str2bool, Option.map_some, List.any_cons, List.any_nil, Bool.or_false]
    cases h0 : (decide (lowerStr s = "0".toList) || decide (lowerStr s = "false".toList)) <;>
      cases h1 : (decide (lowerStr s = "1".toList) || decide (lowerStr s = "true".toList)) <;> simp

/-- **`config.update` as written today**: the translated method sets exactly the switch its (case-insensitive) item names
    to what the parser returns, raises ValueError for any other item or value, and touches nothing else — the model's
    `cfgUpdate`. (The class is plain — no base classes — and `config` is its one module-level instance.) -/
theorem C19_source_update (item : List Char) (v : CfgVal) (c : Cfg) :
    runUpdate Generated.str2boolCode Generated.updateCode item v c = some (cfgUpdate item v c) := by
  simp only [runUpdate, Generated.updateCode, cfgUpdate, CStmt.runUpdate, CCond.eval, CExp.eval, Option.map_some, C19_source_parse]
  by_cases hA : lowerStr item = "jaxtyping_disable".toList
  · simp only [decide_eq_true hA, if_pos hA]
    cases str2bool v <;> rfl
  · simp only [decide_eq_false hA, if_neg hA]
    by_cases hB : lowerStr item = "jaxtyping_remove_typechecker_stack".toList
    · simp only [decide_eq_true hB, if_pos hB]
      cases str2bool v <;> rfl
    · simp only [decide_eq_false hB, if_neg hB]

end JV
