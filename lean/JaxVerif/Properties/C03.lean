/-
C03 — dtype categories accept exactly the documented dtypes, on every backend.
The quantifier is a finite table (every dtype each installed library produces x the 34 exported
categories), regenerated on every run: `Generated.categories` from the current source,
`Generated.backendRows` from the installed libraries. `decide +kernel` over the whole table is
the proof.
-/
import JaxVerif.Generated.DtypeTables
import JaxVerif.Generated.Backends

namespace JV

/-- what the code answers for a row and a category (dtype part of the check) -/
def dtypeVerdict (c : String × DtypeSpec) (r : DtypeRow) : Bool :=
  c.2.accepts (extractName Generated.npCanonicalName Generated.duckReprRule r.raw)

/-- one cell of the table: the code's verdict is what the documented hierarchy requires, where it requires anything -/
def rowOk (c : String × DtypeSpec) (r : DtypeRow) : Bool :=
  match required c.1 r.canon r.kind with
  | some b => dtypeVerdict c r == b
  | none => true

/-- rows that agree on `key` agree on `val`, checked in one pass over the table instead of over all pairs:
    every row agrees with the first row of its key -/
theorem agree_of_first {α β γ : Type} [BEq β] (rows : List α) (key : α → β) (val : α → γ)
    (h : ∀ r ∈ rows, (rows.find? (key · == key r)).map val = some (val r)) :
    ∀ r₁ ∈ rows, ∀ r₂ ∈ rows, key r₁ = key r₂ → val r₁ = val r₂ := by
  intro r₁ h₁ r₂ h₂ hk
  have e := h r₁ h₁
  rw [hk, h r₂ h₂] at e
  exact (Option.some.inj e).symm

def verdicts (r : DtypeRow) : List Bool := Generated.categories.map (dtypeVerdict · r)

/-- The one evaluation over the whole table. `C03_table` and `C03_backend` are its two halves: stated together
    the kernel computes each cell's verdict once (it keeps the values of closed terms it has met) instead of once
    per theorem and, for `C03_backend`, once per pair of rows. -/
theorem table_checked : ∀ r ∈ Generated.backendRows,
    (∀ c ∈ Generated.categories, rowOk c r = true) ∧
      (Generated.backendRows.find? (·.canon == r.canon)).map verdicts = some (verdicts r) := by
  decide +kernel

/-- **the table**: for every dtype of every library and every exported category the code accepts
    when the documented hierarchy says accept and rejects when it says reject -/
theorem C03_table :
    ∀ r ∈ Generated.backendRows, ∀ c ∈ Generated.categories, rowOk c r = true :=
  fun r hr => (table_checked r hr).1

/-- the source defines exactly the 34 exported categories, and the translator understood all of it -/
theorem C03_categories_complete :
    Generated.categories.map (·.1) = exportedCategories ∧ Generated.dtypeUnknown = [] := by
  decide +kernel

/-- each precision-specific class accepts exactly its one dtype name -/
theorem C03_precision :
    ∀ p ∈ precisionClasses, Generated.categories.lookup p.1 = some (.names [p.2.1]) := by
  decide +kernel

/-- **same verdict whichever library carries the data** — also for dtypes on which the
    documentation is silent -/
theorem C03_backend :
    ∀ r₁ ∈ Generated.backendRows, ∀ r₂ ∈ Generated.backendRows, r₁.canon = r₂.canon →
      ∀ c ∈ Generated.categories, dtypeVerdict c r₁ = dtypeVerdict c r₂ :=
  fun r₁ h₁ r₂ h₂ hk => List.map_inj_left.mp <|
    agree_of_first _ (·.canon) verdicts (fun r hr => (table_checked r hr).2) r₁ h₁ r₂ h₂ hk

/-- `a = b ∪ c` as sets of names, in the decidable form the kernel evaluates -/
theorem contains_union {d : String} {a b c : List String}
    (h : (a.all (b ++ c).contains && (b ++ c).all a.contains) = true) :
    a.contains d = (b.contains d || c.contains d) := by
  simp only [Bool.and_eq_true, List.all_eq_true, List.contains_iff_mem] at h
  rw [Bool.eq_iff_iff]
  simp only [Bool.or_eq_true, List.contains_iff_mem, ← List.mem_append]
  exact ⟨h.1 d, h.2 d⟩

private def catNames (n : String) : List String :=
  match Generated.categories.lookup n with
  | some (.names l) => l
  | _ => []

/-- the hierarchy, as identities of accepted sets over *all* dtype names (not only the table):
    Integer = UInt ∪ Int, Inexact = Float ∪ Complex, Real = Float ∪ Integer, Num = Real ∪ Complex -/
theorem C03_hierarchy (d : String) :
    ((catNames "Integer").contains d = ((catNames "UInt").contains d || (catNames "Int").contains d)) ∧
    ((catNames "Inexact").contains d = ((catNames "Float").contains d || (catNames "Complex").contains d)) ∧
    ((catNames "Real").contains d = ((catNames "Float").contains d || (catNames "Integer").contains d)) ∧
    ((catNames "Num").contains d = ((catNames "Real").contains d || (catNames "Complex").contains d)) := by
  refine ⟨contains_union ?_, contains_union ?_, contains_union ?_, contains_union ?_⟩ <;> decide +kernel

/-- a user-defined category over strings accepts exactly the names it lists, and the
    normalisation of `__init_subclass__` (a single string, or a list) does not change that -/
theorem C03_user (u : UserDtypes) (d : String) :
    u.normalize.accepts d = true ↔ (match u with | .one s => d = s | .many l => d ∈ l) := by
  cases u with
  | one s => simp [UserDtypes.normalize, DtypeSpec.accepts, eq_comm]
  | many l => simp [UserDtypes.normalize, DtypeSpec.accepts]

/-! non-vacuity: the table is not empty and contains the interesting rows -/
example : Generated.backendRows.length > 100 ∧ Generated.categories.length = 34 := by decide +kernel
example : (Generated.backendRows.filter (fun r => r.canon == "int64")).length ≥ 4 := by decide +kernel

end JV
