/-
C02 — a checked call is accepted iff one consistent axis assignment exists.
-/
import JaxVerif.Lemmas.Calls

namespace JV

/-- **the verdict is satisfiability**: unless a check raises, a sequence of array checks in one
    context is accepted exactly when ONE total assignment of sizes to names and shapes to `*names`,
    consistent with what the context already binds, matches every value. -/
theorem C02_seq_iff (c : Catch) (tp : TreePath) (l : List (Ann × ArrObj)) (m : Memo)
    (ht : ∀ p ∈ l, p.1.transparent = false)
    (hr : (checkSeq c tp l m).1 = .T ∨ (checkSeq c tp l m).1 = .F) :
    (checkSeq c tp l m).1 = .T ↔
      ∃ α, Extends α m.single m.variadic ∧ ∀ p ∈ l, GoodUnder tp m.args α p :=
  checkSeq_iff ht hr

/-- order independence: any permutation of the parameters (declaration order, positional vs
    keyword passing, the typechecker's traversal order) gives the same verdict, provided neither
    order meets an unbound symbolic name or raising user code -/
theorem C02_perm (c : Catch) (tp : TreePath) (l₁ l₂ : List (Ann × ArrObj)) (m : Memo)
    (hp : l₁.Perm l₂)
    (ht : ∀ p ∈ l₁, p.1.transparent = false)
    (h₁ : (checkSeq c tp l₁ m).1 = .T ∨ (checkSeq c tp l₁ m).1 = .F)
    (h₂ : (checkSeq c tp l₂ m).1 = .T ∨ (checkSeq c tp l₂ m).1 = .F) :
    (checkSeq c tp l₁ m).1 = (checkSeq c tp l₂ m).1 :=
  checkSeq_congr_mem (fun _ => hp.mem_iff) ht h₁ h₂

/-- checking the parameters twice (parameter pass, then full pass with the return value, same
    context) decides the same thing as checking parameters and return value once -/
theorem C02_recheck (c : Catch) (tp : TreePath) (l : List (Ann × ArrObj)) (r : Ann × ArrObj) (m : Memo)
    (ht : ∀ p ∈ l ++ [r], p.1.transparent = false)
    (h₁ : (checkSeq c tp (l ++ l ++ [r]) m).1 = .T ∨ (checkSeq c tp (l ++ l ++ [r]) m).1 = .F)
    (h₂ : (checkSeq c tp (l ++ [r]) m).1 = .T ∨ (checkSeq c tp (l ++ [r]) m).1 = .F) :
    (checkSeq c tp (l ++ l ++ [r]) m).1 = (checkSeq c tp (l ++ [r]) m).1 :=
  have hmem : ∀ p, p ∈ l ++ l ++ [r] ↔ p ∈ l ++ [r] := fun p => by simp only [List.mem_append, or_self]
  checkSeq_congr_mem hmem (fun p hp => ht p ((hmem p).mp hp)) h₁ h₂

/-- the wrapper's parameter pass over array-annotated parameters *is* `checkSeq` on the pushed
    context -/
theorem C02_checkParams_eq (sk : Skel) (ps : List Param) (m : Memo) (rest : List Memo)
    (tpv : TreePath) (dis : Bool) (h : ∀ p ∈ ps, ∃ cls a, p.ty = .arr cls a) :
    let st : TState := { stack := m :: rest, tp := tpv, flatten := false, disable := dis }
    (checkParams sk ps st).2.1 = (checkSeq sk.arrayCatch tpv (ps.map Param.asArr) m).1 ∧
    (checkParams sk ps st).1.stack = (checkSeq sk.arrayCatch tpv (ps.map Param.asArr) m).2 :: rest := by
  obtain ⟨x, hx⟩ := checkParams_full sk rest tpv dis ps m h
  exact ⟨congrArg (·.2.1) hx, congrArg (·.1.stack) hx⟩

/-! non-vacuity: `x:"a b", y:"b c", z:"a c"` accepted for (2,3),(3,4),(2,4); rejected once z is (2,5);
    and rejected in *every* order -/
private def A (d1 d2 : String) : Ann :=
  { dtypes := .any, shape := { pre := [.named d1 false false, .named d2 false false], var := none } }
private def V (s : List Nat) : ArrObj := { isInst := true, dtype := "float32", shape := s }
example : (checkSeq .baseException none [(A "a" "b", V [2, 3]), (A "b" "c", V [3, 4]), (A "a" "c", V [2, 4])] {}).1 = .T := by decide +kernel
example : (checkSeq .baseException none [(A "a" "b", V [2, 3]), (A "b" "c", V [3, 4]), (A "a" "c", V [2, 5])] {}).1 = .F := by decide +kernel
example : (checkSeq .baseException none [(A "a" "c", V [2, 5]), (A "b" "c", V [3, 4]), (A "a" "b", V [2, 3])] {}).1 = .F := by decide +kernel

end JV
