/-
C13 — type-check errors are raised iff violated and describe the failure truthfully.
-/
import JaxVerif.Generated.Skeleton
import JaxVerif.Lemmas.Errors
import JaxVerif.Source.Wrappers

namespace JV

/-- the outcome reported by a program statement (its last observation) -/
def lastObs (r : TState × List Obs) : Option Obs := r.2.getLast?

/-- **raised iff violated, at the right stage**: for a new-style call whose parameters and return
    value carry array annotations, the outcome is decided by the one sequential walk
    parameters, parameters again, return value — which `C02_seq_iff` shows to be satisfiability:
    accepted ⇒ the call returns; rejected ⇒ a TypeCheckError for the parameters or for the return
    value; an unbound symbolic name ⇒ AnnotationError, never a TypeCheckError. -/
theorem C13_iff (sk : Skel) (w : WrapSkel) (hw : w.disableTestFirst = true ∧ w.annErrFirst = true)
    (ps : List Param) (r : Param) (st : TState) (hd : st.disable = false) (hf : st.flatten = false)
    (hps : ∀ p ∈ ps ++ [r], ∃ cls a, p.ty = .arr cls a) :
    let l := (ps ++ ps ++ [r]).map Param.asArr
    let v := (checkSeq sk.arrayCatch st.tp l { args := argsOf ps }).1
    let o := lastObs (runProg sk w (.call .newStyle ps (some (r.ty, r.val)) true false [] .ret) st)
    (v = .T → o = some (.outcome .returned)) ∧
    (v = .F → o = some (.outcome .tceReturn) ∨ ∃ b, o = some (.outcome (.tceParams b))) ∧
    (v = .ANN → o = some (.outcome .ann)) := by
  obtain ⟨stack, tpv, fl, dis⟩ := st
  cases hd
  cases hf
  have hps1 : ∀ p ∈ ps, ∃ cls a, p.ty = .arr cls a := fun p hp => hps p (by simp [hp])
  obtain ⟨cls, a, hty⟩ := hps r (by simp)
  -- the one walk, by its three parts
  simp only [List.map_append, List.map_cons, List.map_nil, asArr_arr hty, List.append_assoc, checkSeq_append,
    checkSeq_single]
  generalize ho : lastObs _ = o
  -- the wrapper's three passes are these parts
  obtain ⟨x1, h1⟩ := checkParams_full sk stack tpv false ps { args := argsOf ps } hps1
  generalize checkSeq sk.arrayCatch tpv (ps.map Param.asArr) { args := argsOf ps } = s1 at h1 ⊢
  obtain ⟨v1, m1⟩ := s1
  obtain ⟨x2, h2⟩ := checkParams_full sk stack tpv false ps m1 hps1
  generalize checkSeq sk.arrayCatch tpv (ps.map Param.asArr) m1 = s2 at h2 ⊢
  obtain ⟨v2, m2⟩ := s2
  have h3 := onTop_param sk r cls a hty m2 stack tpv false
  generalize instancecheck sk.arrayCatch false tpv a (r.val.toArr cls) m2 = s3 at h3 ⊢
  obtain ⟨v3, m3⟩ := s3
  dsimp only at h1 h2 h3 ⊢
  -- the call, an enabled new-style one that binds, with each pass replaced by its result: `o` is the last
  -- observation of a `match` on `v1`, `v2`, `v3`
  rw [runProg_call_eq] at ho
  unfold callStep lastObs at ho
  simp only [hw.1, Bool.or_false, Bool.and_false, Bool.false_eq_true, if_false, Bool.not_true] at ho
  -- (the state after the push is the `topState` of `h1` only up to unfolding, so `rw [h1]` finds nothing)
  generalize hc1 : checkParams sk ps (pushFrame _ _) = c1 at ho
  obtain rfl := hc1.symm.trans h1
  dsimp only [runProgs_nil] at ho
  rw [h2] at ho
  dsimp only at ho
  rw [h3] at ho
  subst ho
  -- verdict of the walk and outcome of the call, by the three verdicts
  cases v1 with
  | T =>
    cases v2 with
    | T =>
      cases v3 with
      | T => exact ⟨fun _ => rfl, nofun, nofun⟩
      | F => exact ⟨nofun, fun _ => .inl rfl, nofun⟩
      | ANN => exact ⟨nofun, nofun, fun _ => by simp only [newRetFail, hw.2]; rfl⟩
      | EXC e => exact ⟨nofun, nofun, nofun⟩
    | F => exact ⟨nofun, fun _ => .inl rfl, nofun⟩
    | ANN => exact ⟨nofun, nofun, fun _ => by simp only [newRetFail, hw.2]; rfl⟩
    | EXC e => exact ⟨nofun, nofun, nofun⟩
  | F =>
    -- the re-check names a parameter (or none): a parameter error either way
    obtain ⟨M, hM, _, hpa⟩ := problemArg_of_stop hps1 h1
    cases hM
    exact ⟨nofun, fun _ => .inr ⟨x1, by simp only [newParamFail, hpa]; rfl⟩, nofun⟩
  | ANN => exact ⟨nofun, nofun, fun _ => by simp only [hw.2]; rfl⟩
  | EXC e => exact ⟨nofun, nofun, nofun⟩

/-- the stage is truthful: the error is a parameter error exactly when the parameter pass itself
    (before the body ran) was rejected -/
theorem C13_stage (sk : Skel) (w : WrapSkel) (hw : w.disableTestFirst = true ∧ w.annErrFirst = true)
    (ps : List Param) (ret : Option (LType × Obj)) (body : List Prog) (st : TState)
    (hd : st.disable = false) :
    let st1 : TState := { st with stack := { args := argsOf ps } :: st.stack }
    let r := runProg sk w (.call .newStyle ps ret true false body .ret) st
    ((∃ b, lastObs r = some (.outcome (.tceParams b))) →
        (checkParams sk ps st1).2.1 ≠ .T ∧ Obs.bodyStart ∉ r.2) ∧
    (lastObs r = some (.outcome .tceReturn) → (checkParams sk ps st1).2.1 = .T) := by
  intro st1 r
  have hr : r = callStep sk w .newStyle ps ret true false (runProgs sk w body) .ret st := runProg_call_eq ..
  by_cases hT : (checkParams sk ps st1).2.1 = .T
  · obtain ⟨tail, o, _, ho, hno, _⟩ := callStep_new_T w ret (runProgs sk w body) .ret hd hT
    rw [lastObs, hr, ho, ← List.append_assoc, List.getLast?_concat]
    exact ⟨fun ⟨b, hb⟩ => absurd (Obs.outcome.inj (Option.some.inj hb)) (hno b), fun _ => hT⟩
  · obtain ⟨tail, o, ht, ho, hno, _⟩ := callStep_new_notT w ret (runProgs sk w body) .ret hd hT
    rw [lastObs, hr, ho, List.getLast?_concat]
    refine ⟨fun _ => ⟨hT, ?_⟩, fun h => absurd (Obs.outcome.inj (Option.some.inj h)) hno⟩
    rcases ht with rfl | ⟨m, rfl⟩ <;> simp

/-- **blame**: when the parameter pass over array-annotated parameters stops with False at some
    parameter, the one-at-a-time re-check blames exactly that parameter — the first, in signature
    order, that violates its annotation under the bindings of the parameters before it — and the
    re-checks of the accepted parameters change nothing (idempotence, C04). -/
theorem C13_blame (sk : Skel) (ps : List Param) (m : Memo) (rest : List Memo) (tpv : TreePath) (dis : Bool)
    (hps : ∀ p ∈ ps, ∃ cls a, p.ty = .arr cls a)
    (st2 : TState) (nm : String)
    (h : checkParams sk ps { stack := m :: rest, tp := tpv, flatten := false, disable := dis } = (st2, .F, some nm)) :
    problemArg sk ps st2 = (st2, .inl (some nm)) := by
  obtain ⟨M, rfl, _, hpa⟩ := problemArg_of_stop hps h
  exact hpa

/-- **bindings listed**: a sequential walk that stops with False leaves exactly the bindings of
    the accepted checks before it — none missing, none from the check that failed -/
theorem C13_bindings (c : Catch) (tp : TreePath) (l : List (Ann × ArrObj)) (m m' : Memo)
    (h : checkSeq c tp l m = (.F, m')) :
    ∃ l1 p l2, l = l1 ++ p :: l2 ∧ checkSeq c tp l1 m = (.T, m') ∧
      (instancecheck c false tp p.1 p.2 m').1 = .F ∧ (instancecheck c false tp p.1 p.2 m').2 = m' := by
  induction l generalizing m with
  | nil => cases h
  | cons p rest ih =>
    rcases checkSeq_cons_cases c tp p.1 p.2 rest m with ⟨m1, h1, hc⟩ | ⟨_, hc⟩ <;> rw [hc] at h
    · obtain ⟨l1, q, l2, hl, hs, hq⟩ := ih m1 h
      exact ⟨p :: l1, q, l2, by rw [hl]; rfl, (checkSeq_cons_T h1).trans hs, hq⟩
    · have hm : m' = m := by
        rw [← instancecheck_fail_restores (m := m) (.inl (by rw [h])), h]
      subst hm
      exact ⟨[], p, rest, rfl, rfl, by rw [h], by rw [h]⟩

/-- misuse surfaces as AnnotationError: with the `except AnnotationError: raise` clause first, an
    AnnotationError met in the parameter pass is the outcome of the call -/
theorem C13_annotation_error (sk : Skel) (w : WrapSkel) (hw : w.disableTestFirst = true ∧ w.annErrFirst = true)
    (ps : List Param) (ret : Option (LType × Obj)) (body : List Prog) (e : Exit) (st : TState)
    (hd : st.disable = false)
    (h : (checkParams sk ps { st with stack := { args := argsOf ps } :: st.stack }).2.1 = .ANN) :
    lastObs (runProg sk w (.call .newStyle ps ret true false body e) st) = some (.outcome .ann) := by
  obtain ⟨tail, o, _, ho, _, ha⟩ := callStep_new_notT w ret (runProgs sk w body) e hd
    fun hT => nomatch hT.symm.trans h
  obtain ⟨rfl, rfl⟩ := ha h hw.2
  rw [lastObs, runProg_call_eq, ho]
  rfl

/-- the source read today: AnnotationError handler first; message built from the current bindings -/
theorem C13_generated_good :
    Generated.annErrFirst = some true ∧ Generated.messageCurrent = some true := by decide

/-- **the handlers as written today are the model's**: the two `try … except AnnotationError: raise … except Exception`
    blocks of `wrapped_fn_impl`, the blame step and the two `raise TypeCheckError(msg)` (whose text must end with the
    CURRENT bindings, else the interpreter crashes), translated from the current source on this run, compute exactly
    the model's step — for every verdict of either typechecker pass, every outcome of the re-check, both values of
    the remove-stack switch. `C13_iff`, `C13_stage` and `C13_annotation_error` are therefore statements about the
    code the source contains. -/
theorem C13_source_wrapper (sk : Skel) (ps : List Param) (ret : Option (LType × Obj)) (bindOk noTc rs nw : Bool)
    (body : List Prog) (e : Exit) (st : TState) :
    runWrapper ⟨sk, ps, ret, bindOk, noTc, runProgs sk goodWrap body, e, rs, nw, none, .plain, Generated.newImplCode⟩
        Generated.newWrapperCode st
      = some (runProg sk goodWrap (.call .newStyle ps ret bindOk noTc body e) st) := by
  rw [source_new_wrapper, runProg_call_eq]

/-- **who is blamed, as written today**: the `for keep_name … else` loop of `_get_problem_arg`, translated from the current
    source on this run, computes `problemArg` of the model for every parameter list and every thread state — so
    `C13_blame` ("the first parameter violating its annotation given the earlier ones, no binding changed") is a
    statement about the code the source contains. (Building the one-parameter checker is a primitive of the translation.) -/
theorem C13_source_blame (sk : Skel) (ps : List Param) (st : TState) :
    runBlame sk Generated.problemArgBody Generated.problemArgElse ps st = some (problemArg sk ps st) :=
  source_problem_arg sk ps st

end JV
