/-
C12 — a check's verdict never depends on earlier, unrelated activity in the process.
-/
import JaxVerif.Model.Threads
import JaxVerif.Generated.Storage
import JaxVerif.Generated.Skeleton
import JaxVerif.Lemmas.Flags
import JaxVerif.Source.Trees
import JaxVerif.Source.Storage

namespace JV

/-- **rest invariant**: after *every* program — whatever passed, failed or raised in it, including
    exceptions of either class thrown by user code in the middle of a check (array attributes via
    `{arg}`, custom flatteners, leaf `__instancecheck__`, the wrapped function) — the
    "only look at the array type" mode is off and no `?`-leaf position is set. -/
theorem C12_rest_invariant (sk : Skel) (w : WrapSkel) (hs : sk.Good) (ps : List Prog) (st : TState)
    (h0 : st.flatten = false ∧ st.tp = none) :
    (runProgs sk w ps st).1.flatten = false ∧ (runProgs sk w ps st).1.tp = none :=
  runProgs_rest sk w hs ps st h0

/-- one check, any state: the flags afterwards are what they were before, or cleared -/
theorem C12_check_flags (sk : Skel) (hs : sk.Good) (l : LType) (x : Obj) (st : CState) :
    ((checkL sk l x st).1.flatten = st.flatten ∨ (checkL sk l x st).1.flatten = false) ∧
    ((checkL sk l x st).1.tp = st.tp ∨ (checkL sk l x st).1.tp = none) :=
  checkL_le sk hs l x st

/-- **the verdict is a function of value, annotation and current bindings**: at rest, two thread
    states whose current context holds the same bindings give the same verdict and the same new
    bindings, whatever else differs (depth of the stack, bindings of callers, history). -/
theorem C12_pure_verdict (sk : Skel) (l : LType) (x : Obj) (st₁ st₂ : TState)
    (hrest : st₁.flatten = false ∧ st₁.tp = none ∧ st₂.flatten = false ∧ st₂.tp = none)
    (htop : st₁.stack.head? = st₂.stack.head?) :
    (onTop st₁ (checkL sk l x)).2 = (onTop st₂ (checkL sk l x)).2 ∧
    (onTop st₁ (checkL sk l x)).1.stack.head? = (onTop st₂ (checkL sk l x)).1.stack.head? := by
  obtain ⟨f1, t1, f2, t2⟩ := hrest
  have hc : st₁.view = st₂.view := by unfold TState.view; rw [f1, t1, f2, t2, htop]
  have s₁ := onTop_spec st₁ (checkL sk l x)
  have s₂ := onTop_spec st₂ (checkL sk l x)
  rw [s₁.verdict, s₂.verdict, s₁.head, s₂.head, hc, htop]
  exact ⟨rfl, rfl⟩

/-- the skeleton read from the current source releases both flags in a `finally` -/
theorem C12_generated_good :
    Generated.flattenInFinally = some true ∧ Generated.treepathInFinally = some true := by decide

/-- what survives a check, a call or a block is only what `_storage.py` holds per thread (shown above to be at rest
    afterwards) and the construction-time caches listed here; nothing else in the package is process-wide and mutable -/
theorem C12_no_other_state : Generated.processGlobalState = knownGlobalState := rfl

/-- each fact matters: a custom flattener that raises with the release outside `finally` leaves
    flatten mode on; a leaf check that raises (here: AnnotationError from an unbound symbolic name) with the clear
    outside `finally` leaves the label set -/
theorem C12_facts_matter :
    let good : Skel := ⟨.baseException, .baseException, true, true, true, true⟩
    let w : WrapSkel := ⟨true, true, true, true, true, true, true, true⟩
    ((runProg { good with flattenInFinally := false } w
        (.check (.pytree .int none) (.custom "C" (some .exception) [])) {}).1.flatten = true) ∧
    ((runProg { good with treepathInFinally := false } w
        (.check (.pytree (.arr "" { dtypes := .any, shape := { pre := [.sym (.var "q") false], var := none } }) (some "T"))
          (.tuple [.arr "D" { isInst := true, dtype := "f", shape := [3] }])) {}).1.tp ≠ none) := by
  decide

/-- **the two `try / finally` blocks of `_check`, as written today**: the flatten-mode flag is released in a `finally` by the
    outermost flattener only, the label cleared in a `finally` by the PyTree that set it — the translated code computes
    the model's `pytreeInstancecheck` with both facts true, whatever the leaf check does. `C12_rest_invariant` is
    therefore a statement about the code the source contains. -/
theorem C12_source_flags (env : TEnv) (ac : Catch) (hf : FlattenKept env.leafCheck) (st : CState) :
    runInstancecheck env Generated.instancecheckCode Generated.checkCode st =
      some (if env.bare then (st, .T)
            else pytreeInstancecheck (goodSkel ac) env.leafCheck env.leafAny env.S env.x st) :=
  source_tree_instancecheck env ac hf st

/-- the flatten-mode flag itself, from the source read today (`clear_` / `set_` / `get_treeflatten_memo`): a thread that
    never touched it reads False; clear and set store False and True, nothing else -/
theorem C12_source_flag_cell (ctx : KCtx) (cell : Option KVal) (h : FlattenCellOk cell) :
    runCellFn Generated.treeflattenFuns ctx Generated.clearTreeflattenCode cell = some (some (.bool false), .inl .none) ∧
    runCellFn Generated.treeflattenFuns ctx Generated.setTreeflattenCode cell = some (some (.bool true), .inl .none) ∧
    runCellFn Generated.treeflattenFuns ctx Generated.getTreeflattenCode cell = some (cell, .inl (.bool (flattenOfCell cell))) :=
  source_cell_flatten ctx cell h

end JV
