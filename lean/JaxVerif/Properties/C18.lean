/-
C18 — cached bytecode never makes a module run with the wrong instrumentation.
-/
import JaxVerif.Generated.Hook
import JaxVerif.Source.Loader
import JaxVerif.Lemmas.Cache

namespace JV

/-- every entry is what its tag says: written for the version it records, instrumented exactly
    with the typechecker key of its tag (plain under the default tag) -/
def CacheInv (c : Cache) : Prop :=
  ∀ k v code, cacheLookup c k = some (v, code) →
    code.version = v ∧ code.instr = (match k.2 with | .default => none | .jaxtyping key => some key)

/-- what a load must execute: code of the current source version, instrumented exactly as the
    current configuration says -/
def LoadOk (versions : String → Nat) (l : Load) (out : String × CodeDesc) : Prop :=
  out.1 = l.name ∧ out.2.version = versions l.name ∧ out.2.instr = l.hookedWith

theorem cacheInv_store {c : Cache} (hc : CacheInv c) (w : Bool) (version : Nat) (l : Load) :
    CacheInv (if w then cacheStore c (l.name, tagFor .getCode w l) (version, ⟨version, l.hookedWith⟩) else c) := by
  cases w
  · exact hc
  · intro k v code hk
    rw [if_pos rfl, cacheLookup_store] at hk
    split at hk
    · next h =>
      cases hk
      subst h
      exact ⟨rfl, (instr_tagFor_getCode true l).symm⟩
    · exact hc k v code hk

/-- one load: the code executed is either found under the load's own tag, where the invariant says what it is, or
    compiled now -/
theorem loadModule_ok (w : Bool) (versions : String → Nat) {c : Cache} (hc : CacheInv c) (l : Load) :
    CacheInv (loadModule .getCode w (versions l.name) c l).1 ∧
      LoadOk versions l (l.name, (loadModule .getCode w (versions l.name) c l).2) := by
  have hstore := cacheInv_store hc w (versions l.name) l
  unfold loadModule
  dsimp only
  split
  · next v code hlk =>
    split
    · next hv =>
      obtain ⟨h1, h2⟩ := hc _ _ _ hlk
      exact ⟨hc, rfl, h1.trans hv, h2.trans (instr_tagFor_getCode w l)⟩
    · exact ⟨hstore, rfl, rfl, rfl⟩
  · exact ⟨hstore, rfl, rfl, rfl⟩

theorem runLoads_ok (w : Bool) (versions : String → Nat) (ls : List Load) {c : Cache} (hc : CacheInv c) :
    CacheInv (runLoads .getCode w versions c ls).1 ∧
      (runLoads .getCode w versions c ls).2.length = ls.length ∧
      ∀ p ∈ ls.zip (runLoads .getCode w versions c ls).2, LoadOk versions p.1 p.2 := by
  induction ls generalizing c with
  | nil => exact ⟨hc, rfl, fun _ hp => nomatch hp⟩
  | cons l ls ih =>
    obtain ⟨h1, h2⟩ := loadModule_ok w versions hc l
    obtain ⟨i1, i2, i3⟩ := ih h1
    refine ⟨i1, congrArg (· + 1) i2, fun p hp => ?_⟩
    rcases List.mem_cons.1 hp with rfl | hp
    · exact h2
    · exact i3 p hp

/-- **for every history of runs** over one cache directory — any subsets of hooked modules, any
    typecheckers, any import orders with imports nested inside hooked modules, source edits in
    between, runs that write bytecode and runs that only read it (`-B`) — with the cache-name patch
    confined to the module's own `get_code` (and applied in every run), every load executes the code
    its current source and the current hook configuration call for -/
theorem C18_history (c : Cache) (hc : CacheInv c) (runs : List CacheRun) :
    let r := runHistory .getCode c runs
    CacheInv r.1 ∧ r.2.length = runs.length ∧
    ∀ i (hi : i < runs.length) (hi' : i < r.2.length),
      (r.2[i]).length = (runs[i]).loads.length ∧
      ∀ p ∈ (runs[i]).loads.zip (r.2[i]), LoadOk (runs[i]).versions p.1 p.2 := by
  induction runs generalizing c with
  | nil => exact ⟨hc, rfl, fun i hi => absurd hi (Nat.not_lt_zero i)⟩
  | cons r rs ih =>
    obtain ⟨h1, h23⟩ := runLoads_ok r.writes r.versions r.loads hc
    obtain ⟨i1, i2, i3⟩ := ih _ h1
    refine ⟨i1, congrArg (· + 1) i2, fun i hi hi' => ?_⟩
    cases i with
    | zero => exact h23
    | succ j => exact i3 j (Nat.lt_of_succ_lt_succ hi) (Nat.lt_of_succ_lt_succ hi')

/-- the empty cache satisfies the invariant -/
theorem C18_init : CacheInv [] :=
  fun _ _ _ h => nomatch h

/-- the tag carries the typechecker key: entries of different typecheckers or of the plain loader
    never collide -/
theorem C18_tags (w₁ w₂ : Bool) (l₁ l₂ : Load) (h : l₁.hookedWith ≠ l₂.hookedWith) :
    tagFor .getCode w₁ l₁ ≠ tagFor .getCode w₂ l₂ := by
  intro heq
  apply h
  rw [← instr_tagFor_getCode w₁ l₁, ← instr_tagFor_getCode w₂ l₂, heq]

/-- the source read today puts the typechecker hash into the tag, uses one key everywhere, and compiles nothing under
    that tag that has not been through the transformer (no fallback path in `source_to_code`); where the patch is in force
    is not among these scanned facts: it is proved from the translated `get_code` / `exec_module` (`C18_source_get_code`, below) -/
theorem C18_generated_good :
    Generated.cacheTagHasChecker = true ∧ Generated.hookKeyChain = "md5-everywhere" ∧
    Generated.cacheTagVersion = 9 ∧ Generated.hookAlwaysTransforms = true :=
  ⟨rfl, rfl, rfl, rfl⟩

/-- `_JaxtypingLoader.source_to_code`, translated from the source read today: whatever the run, the only thing compiled
    under the hook's tag is the transformed tree (Source/Loader.lean) -/
theorem C18_source_to_code (key : String) (writes : Bool) (gc : LSt → LRes) (active : Option String) :
    Generated.sourceToCodeCode.run key writes gc (LSt.fresh active) = .code ⟨true, true⟩ :=
  source_loader_to_code key writes gc active

/-- `get_code` / `exec_module`, translated from the source read today, are `tagFor .getCode`: whether or not the run writes bytecode and whatever was in force on entry, the module's own bytecode is looked up
    and written under the hook's tag for this typechecker key, and the module body (hence every import nested in it)
    then runs with exactly the `cache_from_source` that was in force on entry, so with the interpreter's own at top
    level and, by induction over the nesting, everywhere: a module that is not hooked is looked up under the
    interpreter's own name -/
theorem C18_source_get_code (key : String) (writes : Bool) (active : Option String) (name : String) (inside : Option String) :
    Generated.getCodeCode.run key writes (fun _ => .crash) (LSt.fresh active) = .tag (tagFor .getCode writes ⟨name, some key, inside⟩) ∧
    Generated.execModuleCode.run key writes (Generated.getCodeCode.run key writes (fun _ => .crash)) (LSt.fresh active)
      = .norm { LSt.fresh active with got := some (tagFor .getCode writes ⟨name, some key, inside⟩), execActive := some active } ∧
    tagOfActive none = tagFor .getCode writes ⟨name, none, inside⟩ := by
  cases writes <;> exact ⟨rfl, rfl, rfl⟩

/-- with the patch spanning the whole `exec_module` a two-run history executes stale code: run 1
    hooks only `a` (which imports `b`), run 2 hooks both — `b` then runs the uninstrumented
    bytecode run 1 cached under the hook's tag -/
theorem C18_execmodule_violates :
    let v : String → Nat := fun _ => 1
    let run1 : List Load := [⟨"a", some "k", none⟩, ⟨"b", none, some "k"⟩]
    let run2 : List Load := [⟨"a", some "k", none⟩, ⟨"b", some "k", some "k"⟩]
    ((runHistory .execModule [] [⟨v, true, run1⟩, ⟨v, true, run2⟩]).2.getD 1 []).getD 1 ("", ⟨0, none⟩) = ("b", ⟨1, none⟩) ∧
    ((runHistory .getCode [] [⟨v, true, run1⟩, ⟨v, true, run2⟩]).2.getD 1 []).getD 1 ("", ⟨0, none⟩) = ("b", ⟨1, some "k"⟩) := by
  decide +kernel

/-- skipping the patch in a run that writes no bytecode is observable: run 1 imports `a` un-hooked
    and caches it; run 2 hooks `a` under `-B` — it then looks under the interpreter's own name and
    executes the plain bytecode of run 1 -/
theorem C18_nowrite_skip_violates :
    let v : String → Nat := fun _ => 1
    let run1 : CacheRun := ⟨v, true, [⟨"a", none, none⟩]⟩
    let run2 : CacheRun := ⟨v, false, [⟨"a", some "k", none⟩]⟩
    ((runHistory .getCodeIfWriting [] [run1, run2]).2.getD 1 []).getD 0 ("", ⟨0, none⟩) = ("a", ⟨1, none⟩) ∧
    ((runHistory .getCode [] [run1, run2]).2.getD 1 []).getD 0 ("", ⟨0, none⟩) = ("a", ⟨1, some "k"⟩) := by
  decide +kernel

end JV
