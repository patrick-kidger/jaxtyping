/-
Sequences of array checks in one context (`checkSeq`): a sequence is accepted iff one consistent total assignment
exists, so its verdict depends on the set of checked values only (C02); an accepted sequence moves the context up in
`MemoLe` and is accepted again, without effect, from every context above (C04, C13); the wrapper's parameter pass and
the leaf loop over array leaves (Lemmas/Trees) are `checkSeq`.
Core Lean only.
-/
import JaxVerif.Spec.Calls
import JaxVerif.Lemmas.Rollback

namespace JV

section
variable {c : Catch} {tp : TreePath} {a : Ann} {o : ArrObj} {l rest : List (Ann × ArrObj)} {m m' m'' : Memo}

theorem checkSeq_cons_T (h : instancecheck c false tp a o m = (.T, m')) :
    checkSeq c tp ((a, o) :: rest) m = checkSeq c tp rest m' := by
  simp only [checkSeq, h]

theorem checkSeq_cons_stop (h : (instancecheck c false tp a o m).1 ≠ .T) :
    checkSeq c tp ((a, o) :: rest) m = instancecheck c false tp a o m := by
  cases hi : instancecheck c false tp a o m with
  | mk v m' =>
    cases v with
    | T => rw [hi] at h; exact absurd rfl h
    | _ => simp only [checkSeq, hi]

/-- the split on the head's verdict that the proofs below start from; its arguments are explicit because no
    hypothesis determines them -/
theorem checkSeq_cons_cases (c : Catch) (tp : TreePath) (a : Ann) (o : ArrObj)
    (rest : List (Ann × ArrObj)) (m : Memo) :
    (∃ m1, instancecheck c false tp a o m = (.T, m1) ∧
        checkSeq c tp ((a, o) :: rest) m = checkSeq c tp rest m1) ∨
      ((instancecheck c false tp a o m).1 ≠ .T ∧
        checkSeq c tp ((a, o) :: rest) m = instancecheck c false tp a o m) := by
  by_cases hv : (instancecheck c false tp a o m).1 = .T
  · exact .inl ⟨_, Prod.ext hv rfl, checkSeq_cons_T (Prod.ext hv rfl)⟩
  · exact .inr ⟨hv, checkSeq_cons_stop hv⟩

theorem checkSeq_cons_T_iff :
    checkSeq c tp ((a, o) :: rest) m = (.T, m') ↔
      ∃ m1, instancecheck c false tp a o m = (.T, m1) ∧ checkSeq c tp rest m1 = (.T, m') := by
  rcases checkSeq_cons_cases c tp a o rest m with ⟨m1, h1, h⟩ | ⟨hv, h⟩ <;> rw [h]
  · rw [h1]; simp
  · exact iff_of_false (fun e => hv (by rw [e])) fun ⟨m1, h1, _⟩ => hv (by rw [h1])

theorem checkSeq_append (c : Catch) (tp : TreePath) (l₁ l₂ : List (Ann × ArrObj)) (m : Memo) :
    checkSeq c tp (l₁ ++ l₂) m =
      if (checkSeq c tp l₁ m).1 = .T then checkSeq c tp l₂ (checkSeq c tp l₁ m).2
      else checkSeq c tp l₁ m := by
  induction l₁ generalizing m with
  | nil => rfl
  | cons p rest ih =>
    rcases checkSeq_cons_cases c tp p.1 p.2 rest m with ⟨m1, h1, h⟩ | ⟨hv, h⟩
    · rw [List.cons_append, checkSeq_cons_T h1, h, ih]
    · rw [List.cons_append, checkSeq_cons_stop hv, h, if_neg hv]

theorem checkSeq_single (c : Catch) (tp : TreePath) (p : Ann × ArrObj) (m : Memo) :
    checkSeq c tp [p] m = instancecheck c false tp p.1 p.2 m := by
  rcases checkSeq_cons_cases c tp p.1 p.2 [] m with ⟨m1, h1, h⟩ | ⟨_, h⟩
  · rw [h, h1]; rfl
  · exact h

/-! ### the verdict of a sequence is satisfiability -/

theorem checkSeq_iff (ht : ∀ p ∈ l, p.1.transparent = false)
    (hr : (checkSeq c tp l m).1 = .T ∨ (checkSeq c tp l m).1 = .F) :
    (checkSeq c tp l m).1 = .T ↔
      ∃ α, Extends α m.single m.variadic ∧ ∀ p ∈ l, GoodUnder tp m.args α p := by
  induction l generalizing m with
  | nil => exact iff_of_true rfl ⟨_, asgOfMemo_extends _ _, List.forall_mem_nil _⟩
  | cons p rest ih =>
    obtain ⟨a, o⟩ := p
    obtain ⟨hta, htr⟩ := List.forall_mem_cons.mp ht
    simp only [List.forall_mem_cons]
    rcases checkSeq_cons_cases c tp a o rest m with ⟨m', hm', hseq⟩ | ⟨hv, hseq⟩
    · -- the head is accepted: continue from the memo it produced
      rw [hseq] at hr ⊢
      rcases instancecheck_T_iff.mp hm' with ⟨ht', _⟩ | ⟨_, hi, hd, σ, ν, hc, rfl⟩
      · rw [hta] at ht'; cases ht'
      rw [ih htr hr]
      constructor
      · rintro ⟨α, hα, hall⟩
        obtain ⟨hα0, hm⟩ := checkShape_sound hc hα
        exact ⟨α, hα0, ⟨hi, hd, hm⟩, hall⟩
      · rintro ⟨α, hα, ⟨_, _, hm⟩, hall⟩
        rcases checkShape_complete hα hm with ⟨σ', ν', hc', hα'⟩ | hc'
        · cases hc.symm.trans hc'
          exact ⟨α, hα', hall⟩
        · cases hc.symm.trans hc'
    · -- the head stops the sequence
      rw [hseq] at hr ⊢
      have hann : (instancecheck c false tp a o m).1 ≠ .ANN := fun e => by
        rw [e] at hr
        exact hr.elim nofun nofun
      refine iff_of_false hv fun ⟨α, hα, ⟨hi, hd, hm⟩, _⟩ => hv ?_
      exact (instancecheck_iff hta hann).mpr ⟨hi, hd, α, hα, hm⟩

theorem verdict_eq_of_iff {v w : Verdict} (hv : v = .T ∨ v = .F) (hw : w = .T ∨ w = .F)
    (h : v = .T ↔ w = .T) : v = w := by
  rcases hv with rfl | rfl <;> rcases hw with rfl | rfl
  · rfl
  · exact (h.mp rfl).symm ▸ rfl
  · exact (h.mpr rfl)
  · rfl

theorem checkSeq_congr_mem {l₁ l₂ : List (Ann × ArrObj)} (hmem : ∀ p, p ∈ l₁ ↔ p ∈ l₂)
    (ht : ∀ p ∈ l₁, p.1.transparent = false)
    (h₁ : (checkSeq c tp l₁ m).1 = .T ∨ (checkSeq c tp l₁ m).1 = .F)
    (h₂ : (checkSeq c tp l₂ m).1 = .T ∨ (checkSeq c tp l₂ m).1 = .F) :
    (checkSeq c tp l₁ m).1 = (checkSeq c tp l₂ m).1 := by
  apply verdict_eq_of_iff h₁ h₂
  rw [checkSeq_iff ht h₁, checkSeq_iff (fun p hp => ht p ((hmem p).mpr hp)) h₂]
  simp only [hmem]

theorem checkSeq_mono (h : checkSeq c tp l m = (.T, m')) : MemoLe m m' := by
  induction l generalizing m with
  | nil => cases h; exact .refl _
  | cons p rest ih =>
    obtain ⟨m1, h1, h2⟩ := checkSeq_cons_T_iff.mp h
    exact (instancecheck_mono h1).trans (ih h2)

theorem checkSeq_stable (h : checkSeq c tp l m = (.T, m')) (hle : MemoLe m' m'') :
    checkSeq c tp l m'' = (.T, m'') := by
  induction l generalizing m with
  | nil => rfl
  | cons p rest ih =>
    obtain ⟨m1, h1, h2⟩ := checkSeq_cons_T_iff.mp h
    exact checkSeq_cons_T_iff.mpr
      ⟨m'', instancecheck_stable h1 ((checkSeq_mono h2).trans hle), ih h2⟩

end

/-- a state whose top context is `m`, outside any PyTree check -/
abbrev topState (m : Memo) (rest : List Memo) (tpv : TreePath) (dis : Bool) : TState :=
  { stack := m :: rest, tp := tpv, flatten := false, disable := dis }

theorem onTop_param (sk : Skel) (p : Param) (cls : String) (a : Ann) (hty : p.ty = .arr cls a)
    (m : Memo) (rest : List Memo) (tpv : TreePath) (dis : Bool) :
    onTop (topState m rest tpv dis) (checkL sk p.ty p.val) =
      (topState (instancecheck sk.arrayCatch false tpv a (p.val.toArr cls) m).2 rest tpv dis,
        (instancecheck sk.arrayCatch false tpv a (p.val.toArr cls) m).1) := by
  rw [hty, onTop_cons, checkL_arr_check]

theorem asArr_arr {p : Param} {cls : String} {a : Ann} (h : p.ty = .arr cls a) :
    p.asArr = (a, p.val.toArr cls) := by
  simp only [Param.asArr, h]

/-- the parameter pass over array-annotated parameters is `checkSeq`, state and all -/
theorem checkParams_full (sk : Skel) (rest : List Memo) (tpv : TreePath) (dis : Bool) :
    ∀ (ps : List Param) (m : Memo), (∀ p ∈ ps, ∃ cls a, p.ty = .arr cls a) →
      ∃ x, checkParams sk ps (topState m rest tpv dis) =
        (topState (checkSeq sk.arrayCatch tpv (ps.map Param.asArr) m).2 rest tpv dis,
          (checkSeq sk.arrayCatch tpv (ps.map Param.asArr) m).1, x)
  | [], m, _ => ⟨none, rfl⟩
  | p :: ps, m, hps => by
    obtain ⟨cls, a, hty⟩ := hps p (by simp)
    have hon := onTop_param sk p cls a hty m rest tpv dis
    rw [List.map_cons, asArr_arr hty, checkParams, hon]
    rcases checkSeq_cons_cases sk.arrayCatch tpv a (p.val.toArr cls) (ps.map Param.asArr) m with
      ⟨m1, h1, h⟩ | ⟨hv, h⟩ <;> rw [h]
    · rw [h1]
      exact checkParams_full sk rest tpv dis ps m1 fun q hq => hps q (by simp [hq])
    · generalize instancecheck sk.arrayCatch false tpv a (p.val.toArr cls) m = r at hv
      obtain ⟨v, m1⟩ := r
      cases v with
      | T => exact absurd rfl hv
      | _ => exact ⟨_, rfl⟩

end JV
