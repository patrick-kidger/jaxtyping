/-
The context stack through calls, context blocks and whole programs. `Bal`: the depth and the frames
below the top are kept by every program, and a call or block that opens a context gives the
caller's stack back exactly. `Rel`: two runs from states that agree on what a check can see observe
the same; for a call or block that opens a context agreement on the flags is enough.
Core Lean only.
-/
import JaxVerif.Lemmas.CallStep

namespace JV

def Bal (a b : TState) : Prop :=
  b.stack.length = a.stack.length ∧ b.stack.drop 1 = a.stack.drop 1

theorem Bal.refl (a : TState) : Bal a a := ⟨rfl, rfl⟩

theorem Bal.trans {a b c : TState} (h1 : Bal a b) (h2 : Bal b c) : Bal a c :=
  ⟨h2.1.trans h1.1, h2.2.trans h1.2⟩

theorem Bal.of_stack_eq {a b : TState} (h : b.stack = a.stack) : Bal a b := by
  unfold Bal; rw [h]; exact ⟨rfl, rfl⟩

theorem onTop_bal (st : TState) (f : CState → CState × Verdict) : Bal st (onTop st f).1 :=
  ⟨(onTop_spec st f).length, (onTop_spec st f).below⟩

section
variable {sk : Skel} {w : WrapSkel} {k : CallKind} {ps : List Param} {ret : Option (LType × Obj)}
  {bindOk noTc : Bool} {B : TState → TState × List Obs} {e : Exit}

/-- A call that opens a context gives the caller's stack back exactly: when the pop comes the
    frame pushed is still on top of the same frames, and the pop sits in a `finally`. -/
theorem callStep_exact (hw : w.Good) (hB : ∀ st, Bal st (B st).1) (st : TState)
    (hnb : ¬(k = .newStyle ∧ (w.disableTestFirst && (st.disable || noTc)) = true)) :
    (callStep sk w k ps ret bindOk noTc B e st).1.stack = st.stack := by
  obtain ⟨h1, h2, h3, h4, h5⟩ := hw
  have hpop : w.popInFinally k = true := by cases k <;> assumption
  have hbind : w.bindBeforePush k = true := by cases k <;> assumption
  rw [callStep_eq, if_neg hnb, hpop, hbind]
  cases bindOk
  · rfl
  · exact (inside_keeps (P := Bal (pushFrame { args := argsOf ps } st))
      (fun l x s h => h.trans (onTop_bal s _)) (fun s h => h.trans (hB s)) (Bal.refl _)).2

theorem callStep_bal (hw : w.Good) (hB : ∀ st, Bal st (B st).1) (st : TState) :
    Bal st (callStep sk w k ps ret bindOk noTc B e st).1 := by
  by_cases hk : k = .newStyle ∧ (w.disableTestFirst && (st.disable || noTc)) = true
  · rw [callStep_eq, if_pos hk]
    split
    · exact hB st
    · exact Bal.refl st
  · exact Bal.of_stack_eq (callStep_exact hw hB st hk)

theorem ctxStep_exact (hw : w.Good) (hB : ∀ st, Bal st (B st).1) (st : TState) :
    (ctxStep w B e st).1.stack = st.stack := by
  unfold ctxStep
  dsimp only
  rw [hw.2.2.1, Bool.true_or, if_pos rfl]
  exact (hB _).2
end

mutual
theorem runProg_bal (sk : Skel) (w : WrapSkel) (hw : w.Good) : ∀ (p : Prog) (st : TState),
    Bal st (runProg sk w p st).1
  | .check l x, st => by rw [runProg_check_eq]; exact onTop_bal st _
  | .print, st => by rw [runProg_print_eq]; exact Bal.refl st
  | .setDisable b, st => by rw [runProg_setDisable_eq]; exact Bal.refl st
  | .ctx body e, st => by
    rw [runProg_ctx_eq]
    exact Bal.of_stack_eq (ctxStep_exact hw (runProgs_bal sk w hw body) st)
  | .call k ps ret bindOk noTc body e, st => by
    rw [runProg_call_eq]
    exact callStep_bal hw (runProgs_bal sk w hw body) st
theorem runProgs_bal (sk : Skel) (w : WrapSkel) (hw : w.Good) : ∀ (ps : List Prog) (st : TState),
    Bal st (runProgs sk w ps st).1
  | [], st => Bal.refl st
  | p :: ps, st => by
    rw [runProgs_cons]
    exact (runProg_bal sk w hw p st).trans (runProgs_bal sk w hw ps _)
end

def FlagsEq (a b : TState) : Prop :=
  a.tp = b.tp ∧ a.flatten = b.flatten ∧ a.disable = b.disable

/-- two thread states that agree on everything a check or a `print_bindings()` can see -/
def Rel (a b : TState) : Prop := FlagsEq a b ∧ a.stack.head? = b.stack.head?

theorem Rel.push {a b : TState} (h : FlagsEq a b) (m : Memo) :
    Rel (pushFrame m a) (pushFrame m b) := ⟨h, rfl⟩

theorem onTop_rel (f : CState → CState × Verdict) : InStep Rel Rel (fun s => onTop s f) := by
  intro a b h
  have hc : b.view = a.view := by unfold TState.view; rw [h.1.1, h.1.2.1, h.2]
  have sa := onTop_spec a f
  have sb := onTop_spec b f
  refine ⟨?_, ⟨?_, ?_, ?_⟩, ?_⟩
  · rw [sa.verdict, sb.verdict, hc]
  · rw [sa.tp, sb.tp, hc]
  · rw [sa.flatten, sb.flatten, hc]
  · rw [sa.disable, sb.disable, h.1.2.2]
  · rw [sa.head, sb.head, hc, h.2]

theorem topMemo_rel {a b : TState} (h : Rel a b) : topMemo b = topMemo a := by
  unfold topMemo
  rw [List.headD_eq_head?_getD, List.headD_eq_head?_getD, h.2]

theorem popAfter_flags {a b : TState} {f : Bool} {o o' : CallOutcome} (h : FlagsEq a b) :
    FlagsEq (popAfter f o a) (popAfter f o' b) := by
  unfold popAfter
  split <;> split <;> exact h

theorem leave_flags (f : Bool) {g : TState → TState × CallOutcome × List Obs}
    (hg : InStep Rel Rel g) : InStep Rel FlagsEq (fun s => leave f (g s)) :=
  fun a b h => ⟨(congrArg Prod.snd (hg a b h).1 :), popAfter_flags (hg a b h).2.1⟩

section
variable {sk : Skel} {w : WrapSkel} {k : CallKind} {ps : List Param} {ret : Option (LType × Obj)}
  {bindOk noTc : Bool} {B : TState → TState × List Obs} {e : Exit} (hB : InStep Rel Rel B)
include hB

/-- a call that opens a context: the observations and the flags afterwards depend only on the
    flags before, not on the caller's stack -/
theorem callStep_flags {a b : TState} (hF : FlagsEq a b)
    (hnb : ¬(k = .newStyle ∧ (w.disableTestFirst && (a.disable || noTc)) = true)) :
    (callStep sk w k ps ret bindOk noTc B e b).2 = (callStep sk w k ps ret bindOk noTc B e a).2 ∧
      FlagsEq (callStep sk w k ps ret bindOk noTc B e a).1
        (callStep sk w k ps ret bindOk noTc B e b).1 := by
  rw [callStep_eq, callStep_eq, ← hF.2.2, if_neg hnb, if_neg hnb]
  cases bindOk
  · rw [if_neg Bool.false_ne_true, if_neg Bool.false_ne_true]
    split <;> exact ⟨rfl, hF⟩
  · exact leave_flags (w.popInFinally k)
      (inside_inStep (fun l x => onTop_rel (checkL sk l x)) (fun _ _ => topMemo_rel) hB)
      _ _ (Rel.push hF _)

theorem callStep_rel (hw : w.Good) (hBal : ∀ st, Bal st (B st).1) :
    InStep Rel Rel (callStep sk w k ps ret bindOk noTc B e) := by
  intro a b hR
  have hd : b.disable = a.disable := hR.1.2.2.symm
  by_cases hk : k = .newStyle ∧ (w.disableTestFirst && (a.disable || noTc)) = true
  · rw [callStep_eq, callStep_eq, hd, if_pos hk, if_pos hk]
    obtain ⟨h1, h2⟩ := hB a b hR
    split
    · exact ⟨by dsimp only; rw [h1], h2⟩
    · exact ⟨rfl, hR⟩
  · obtain ⟨h1, h2⟩ := callStep_flags hB hR.1 hk
    refine ⟨h1, h2, ?_⟩
    rw [callStep_exact hw hBal a hk, callStep_exact hw hBal b (by rw [hd]; exact hk)]
    exact hR.2

theorem ctxStep_flags : InStep FlagsEq FlagsEq (ctxStep w B e) := by
  intro a b hF
  obtain ⟨h1, h2⟩ := hB _ _ (Rel.push hF {})
  exact ⟨congrArg (· ++ _) h1, popAfter_flags h2.1⟩

theorem ctxStep_rel (hw : w.Good) (hBal : ∀ st, Bal st (B st).1) :
    InStep Rel Rel (ctxStep w B e) := by
  intro a b hR
  obtain ⟨h1, h2⟩ := ctxStep_flags hB a b hR.1
  refine ⟨h1, h2, ?_⟩
  rw [ctxStep_exact hw hBal a, ctxStep_exact hw hBal b]
  exact hR.2
end

mutual
theorem runProg_rel (sk : Skel) (w : WrapSkel) (hw : w.Good) : ∀ (p : Prog) (a b : TState),
    Rel a b → (runProg sk w p b).2 = (runProg sk w p a).2 ∧
      Rel (runProg sk w p a).1 (runProg sk w p b).1
  | .check l x, a, b, h => by
    rw [runProg_check_eq, runProg_check_eq]
    obtain ⟨h1, h2⟩ := onTop_rel (checkL sk l x) a b h
    exact ⟨by dsimp only at h1 ⊢; rw [h1], h2⟩
  | .print, a, b, h => by
    rw [runProg_print_eq, runProg_print_eq]
    exact ⟨by dsimp only; rw [h.2], h⟩
  | .setDisable d, a, b, h => by
    rw [runProg_setDisable_eq, runProg_setDisable_eq]
    exact ⟨rfl, ⟨h.1.1, h.1.2.1, rfl⟩, h.2⟩
  | .ctx body e, a, b, h => by
    rw [runProg_ctx_eq, runProg_ctx_eq]
    exact ctxStep_rel (runProgs_rel sk w hw body) hw (runProgs_bal sk w hw body) a b h
  | .call k ps ret bindOk noTc body e, a, b, h => by
    rw [runProg_call_eq, runProg_call_eq]
    exact callStep_rel (runProgs_rel sk w hw body) hw (runProgs_bal sk w hw body) a b h
theorem runProgs_rel (sk : Skel) (w : WrapSkel) (hw : w.Good) : ∀ (ps : List Prog),
    InStep Rel Rel (runProgs sk w ps)
  | [], a, b, h => ⟨rfl, h⟩
  | p :: ps, a, b, h => by
    obtain ⟨h1, h2⟩ := runProg_rel sk w hw p a b h
    obtain ⟨h3, h4⟩ := runProgs_rel sk w hw ps _ _ h2
    rw [runProgs_cons, runProgs_cons, h1, h3]
    exact ⟨rfl, h4⟩
end

end JV
