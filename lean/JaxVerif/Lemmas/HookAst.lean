/-
The hook's pass over a syntax tree (Model/HookAst.lean) only adds: `erase` undoes `transform` on every tree, and
`transform` raises the number of decorators by the number of definitions (C10).
-/
import JaxVerif.Model.HookAst

namespace JV

/-! ### decidable equality of trees (`Node` is a nested inductive: no derive handler): closed equations between
    trees, like the examples of Properties/C10.lean, can be decided -/

mutual
def Node.decEq : (a b : Node) → Decidable (a = b)
  | .mk k1 l1 d1 c1, .mk k2 l2 d2 c2 =>
    if hk : k1 = k2 then
      if hl : l1 = l2 then
        match Node.decEqList d1 d2 with
        | isTrue hd =>
          match Node.decEqList c1 c2 with
          | isTrue hc => isTrue (by rw [hk, hl, hd, hc])
          | isFalse hc => isFalse (fun h => hc (by cases h; rfl))
        | isFalse hd => isFalse (fun h => hd (by cases h; rfl))
      else isFalse (fun h => hl (by cases h; rfl))
    else isFalse (fun h => hk (by cases h; rfl))
def Node.decEqList : (a b : List Node) → Decidable (a = b)
  | [], [] => isTrue rfl
  | [], _ :: _ => isFalse (fun h => by cases h)
  | _ :: _, [] => isFalse (fun h => by cases h)
  | a :: as, b :: bs =>
    match Node.decEq a b with
    | isTrue h1 =>
      match Node.decEqList as bs with
      | isTrue h2 => isTrue (by rw [h1, h2])
      | isFalse h2 => isFalse (fun h => h2 (by cases h; rfl))
    | isFalse h1 => isFalse (fun h => h1 (by cases h; rfl))
end
instance : DecidableEq Node := Node.decEq

theorem transformList_append (l₁ l₂ : List Node) :
    transformList (l₁ ++ l₂) = transformList l₁ ++ transformList l₂ := by
  induction l₁ with
  | nil => rfl
  | cons a l ih => exact congrArg (transform a :: ·) ih

theorem transform_decoNode (l : Loc) : transform (decoNode l) = decoNode l := rfl

theorem transform_kind (t : Node) : (transform t).kind = t.kind := by
  unfold transform
  split <;> rfl

theorem transformModule_of_kind_ne {n : Node} (h : n.kind ≠ .module) : transformModule n = transform n := by
  unfold transformModule
  split
  · exact absurd rfl h
  · rfl

theorem transformModule_module (l : Loc) (d c : List Node) :
    transformModule (.mk .module l d c) = transform (.mk .module l d (insertImport c)) := rfl

theorem eraseList_append (l₁ l₂ : List Node) :
    eraseList (l₁ ++ l₂) = eraseList l₁ ++ eraseList l₂ := by
  induction l₁ with
  | nil => rfl
  | cons a l ih => exact congrArg (erase a :: ·) ih

theorem erase_transform_mutual :
    (∀ t : Node, erase (transform t) = t) ∧ (∀ l : List Node, eraseList (transformList l) = l) := by
  apply transform.mutual_induct
  · -- a `def`: the decorator went to the end of the (transformed) list, `dropLast` takes it off
    intro l decos kids ihd ihk
    rw [transform, erase, eraseList_append, ihd, ihk, eraseList, eraseList, List.dropLast_concat]
  · -- a `class`: it went to the front, `drop 1` takes it off
    intro l decos kids ihd ihk
    rw [transform, erase, eraseList, ihd, ihk, List.drop_one, List.tail_cons]
  · intro k l decos kids h1 h2 ihd ihk
    rw [transform.eq_3 k l decos kids h1 h2, erase.eq_3 k l _ _ h1 h2, ihd, ihk]
  · rfl
  · intro n ns ih1 ih2
    rw [transformList, eraseList, ih1, ih2]

theorem erase_transform (t : Node) : erase (transform t) = t := erase_transform_mutual.1 t
theorem eraseList_transformList (l : List Node) : eraseList (transformList l) = l :=
  erase_transform_mutual.2 l

theorem eraseImport_insertImport (kids : List Node) : eraseImport (insertImport kids) = kids := by
  induction kids with
  | nil => rfl
  | cons n ns ih =>
    rw [insertImport]
    cases hp : isPrologue n
    · -- the import was put in front of `n`, and is no prologue statement itself
      rfl
    · rw [if_pos rfl, eraseImport, if_pos hp, ih]

theorem eraseModule_of_kind_ne {n : Node} (h : n.kind ≠ .module) : eraseModule n = erase n := by
  unfold eraseModule
  split
  · exact absurd rfl h
  · rfl

theorem eraseModule_module (l : Loc) (d c : List Node) :
    eraseModule (.mk .module l d c) = .mk .module l (eraseList d) (eraseImport (eraseList c)) := rfl

/-- holds of every tree, whether or not it already contains nodes of the kinds the hook adds -/
theorem erase_transformModule (t : Node) : eraseModule (transformModule t) = t := by
  by_cases hk : t.kind = .module
  · obtain ⟨k, l, d, c⟩ := t
    cases hk
    show eraseModule (.mk .module l (transformList d) (transformList (insertImport c))) = _
    rw [eraseModule_module, eraseList_transformList, eraseList_transformList, eraseImport_insertImport]
  · rw [transformModule_of_kind_ne hk, eraseModule_of_kind_ne (by rwa [transform_kind]), erase_transform]

variable (p : NodeKind → Bool)

theorem countKindList_append (l₁ l₂ : List Node) :
    countKindList p (l₁ ++ l₂) = countKindList p l₁ + countKindList p l₂ := by
  induction l₁ with
  | nil => exact (Nat.zero_add _).symm
  | cons a l ih => rw [List.cons_append, countKindList, countKindList, ih, Nat.add_assoc]

theorem count_clean_mutual (hp : ∀ k, p k = true → k = .importJaxtyping ∨ k = .jaxtypedDecorator) :
    (∀ t : Node, clean t = true → countKind p t = 0) ∧
    (∀ l : List Node, cleanList l = true → countKindList p l = 0) := by
  apply clean.mutual_induct
  · intro k l decos kids ihd ihk h
    simp only [clean, Bool.and_eq_true] at h
    obtain ⟨⟨h1, h2⟩, h3⟩ := h
    have : p k = false := by
      cases hpk : p k with
      | false => rfl
      | true => rcases hp k hpk with rfl | rfl <;> simp at h1
    simp [countKind, this, ihd h2, ihk h3]
  · intro _
    rfl
  · intro n ns ih1 ih2 h
    simp only [cleanList, Bool.and_eq_true] at h
    simp [countKindList, ih1 h.1, ih2 h.2]

theorem countKindList_insertImport (kids : List Node) :
    countKindList p (insertImport kids) =
      countKindList p kids + if kids.all isPrologue then 0 else countKind p importNode := by
  induction kids with
  | nil => rfl
  | cons n ns ih =>
    cases h : isPrologue n
    · simp only [insertImport, h, List.all_cons, Bool.false_and, Bool.false_eq_true, if_false, countKindList]
      exact Nat.add_comm ..
    · simp only [insertImport, h, List.all_cons, Bool.true_and, if_true, countKindList, ih]
      exact (Nat.add_assoc ..).symm

def isDeco : NodeKind → Bool := fun k => k == .jaxtypedDecorator
def isDef : NodeKind → Bool := fun k => k == .funcDef || k == .classDef

theorem count_transform_mutual :
    (∀ t : Node, countKind isDeco (transform t) = countKind isDeco t + countKind isDef t) ∧
    (∀ l : List Node, countKindList isDeco (transformList l) =
      countKindList isDeco l + countKindList isDef l) := by
  apply transform.mutual_induct
  · -- a `def`: one decorator more in its list, and the node counts as a definition; the rest is arithmetic
    intro l decos kids ihd ihk
    simp +arith [transform, countKind, countKindList_append, countKindList, ihd, ihk, decoNode, isDeco, isDef]
  · -- a `class`: likewise
    intro l decos kids ihd ihk
    simp +arith [transform, countKind, countKindList, ihd, ihk, decoNode, isDeco, isDef]
  · -- any other node gets no decorator and is no definition
    intro k l decos kids h1 h2 ihd ihk
    have : isDef k = false := by
      simp only [isDef, Bool.or_eq_false_iff, beq_eq_false_iff_ne, ne_eq]
      exact ⟨h1, h2⟩
    simp +arith only [transform.eq_3 k l decos kids h1 h2, countKind, ihd, ihk, this, Bool.false_eq_true, if_false]
  · rfl
  · intro n ns ih1 ih2
    rw [transformList, countKindList, ih1, ih2, countKindList, countKindList]
    exact Nat.add_add_add_comm ..

/-- holds of every tree; on a clean one the first summand is 0 (`count_clean_mutual`) -/
theorem count_transformModule (t : Node) :
    countKind isDeco (transformModule t) = countKind isDeco t + countKind isDef t := by
  by_cases hk : t.kind = .module
  · obtain ⟨k, l, d, c⟩ := t
    cases hk
    rw [transformModule_module, count_transform_mutual.1]
    -- the inserted import is neither a decorator nor a definition
    simp only [countKind, countKindList_insertImport, show countKind isDeco importNode = 0 from rfl,
      show countKind isDef importNode = 0 from rfl, ite_self, Nat.add_zero]
  · rw [transformModule_of_kind_ne hk, count_transform_mutual.1]

end JV
