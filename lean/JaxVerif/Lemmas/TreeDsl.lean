/-
Lemmas for the translated PyTree code (Model/TreeDsl.lean).
* The interpreter in continuation form: `(seq a b).run env cr s = (a.run env cr s).andThen (b.run env cr)` and the like.
  With one equation per statement form in the simp set (and NOT `TStmt.run` itself, which would unfold the
  continuations too), `simp` walks a program statement by statement and, where it cannot decide a test or a result,
  stops with the rest of the program still folded.
* A loop body that behaves like one round of the model's leaf loop, iterated by `runFor`, is `leafLoop`. Proved once;
  the obligation about the body the translator produces on each run (Source/Trees.lean) is then free of recursion.
* Two facts about the model's `flat` that the proof of the translated `_check` needs: it answers with leaves or with
  an exception (`RaisedOk`), and it keeps the flatten flag if the leaf check does (`FlattenKept`).
Core Lean only.
-/
import JaxVerif.Model.TreeDsl
import JaxVerif.Lemmas.Walks
import JaxVerif.Lemmas.Attr

namespace JV

namespace TRes
/-- `r` and then `k`: only a normal end goes on -/
def andThen (r : TRes) (k : TSt → TRes) : TRes :=
  match r with
  | .normal s => k s
  | r => r

/-- `r` inside `try … finally f` -/
def andFinally (r : TRes) (f : TSt → TRes) : TRes :=
  match r with
  | .crash => .crash
  | .normal s => f s
  | .ret b s => (f s).andThen (.ret b)
  | .raised v s => (f s).andThen (.raised v)

/-- `r` inside `try … except`: `h` is the chain of handlers -/
def orHandle (r : TRes) (h : TSt → TRes) : TRes :=
  match r with
  | .raised v s => h { s with caught := some v }
  | r => r

variable (k : TSt → TRes) (s : TSt) (b : Bool) (v : Verdict)
@[tree_run] theorem andThen_normal : (normal s).andThen k = k s := rfl
@[tree_run] theorem andThen_ret : (ret b s).andThen k = ret b s := rfl
@[tree_run] theorem andThen_raised : (raised v s).andThen k = raised v s := rfl
@[tree_run] theorem andFinally_normal : (normal s).andFinally k = k s := rfl
@[tree_run] theorem andFinally_ret : (ret b s).andFinally k = (k s).andThen (ret b) := rfl
@[tree_run] theorem andFinally_raised : (raised v s).andFinally k = (k s).andThen (raised v) := rfl
@[tree_run] theorem orHandle_normal : (normal s).orHandle k = normal s := rfl
@[tree_run] theorem orHandle_ret : (ret b s).orHandle k = ret b s := rfl
@[tree_run] theorem orHandle_raised : (raised v s).orHandle k = k { s with caught := some v } := rfl
end TRes

namespace TStmt
variable (env : TEnv) (cr : TSt → TRes) (s : TSt)
@[tree_run] theorem run_skip : skip.run env cr s = .normal s := rfl
@[tree_run] theorem run_seq (a b : TStmt) : (seq a b).run env cr s = (a.run env cr s).andThen (b.run env cr) := rfl
@[tree_run] theorem run_ite (c : TCond) (t e : TStmt) : (ite c t e).run env cr s =
    match c.eval env s with
    | none => .crash
    | some true => t.run env cr s
    | some false => e.run env cr s := rfl
/-- the translator renders the two definitions of the leaf predicates (one per branch of `if cls.leaftype is Any`)
    as this one statement -/
theorem run_pickLeafPreds :
    (ite .leafAny (pickLeafPred true) (pickLeafPred false)).run env cr s = .normal { s with preds := some env.leafAny } := by
  rw [run_ite, TCond.eval]
  cases env.leafAny <;> rfl
@[tree_run] theorem run_ret (b : Bool) : (ret b).run env cr s = .ret b s := rfl
@[tree_run] theorem run_snapshot : snapshot.run env cr s =
    .normal { s with bak := some s.st.memo, st := if s.st.noCtx then { s.st with memo := {} } else s.st } := rfl
@[tree_run] theorem run_restore : restore.run env cr s =
    match s.bak with
    | some m => .normal { s with st := { s.st with memo := m } }
    | none => .crash := rfl
@[tree_run] theorem run_callCheck : callCheck.run env cr s =
    if s.bak.isNone then .crash
    else match cr s with
      | .ret b s' => .normal { s' with out := some b }
      | .normal _ => .crash
      | r => r := rfl
@[tree_run] theorem run_tryFinally (b f : TStmt) : (tryFinally b f).run env cr s = (b.run env cr s).andFinally (f.run env cr) := rfl
@[tree_run] theorem run_tryExcept (b h : TStmt) : (tryExcept b h).run env cr s = (b.run env cr s).orHandle (h.run env cr) := rfl
@[tree_run] theorem run_handler (cls : TCls) (body next : TStmt) : (handler cls body next).run env cr s =
    match s.caught with
    | none => .crash
    | some x => if cls.covers x then body.run env cr s else next.run env cr s := rfl
@[tree_run] theorem run_endHandlers : endHandlers.run env cr s =
    match s.caught with
    | none => .crash
    | some x => .raised x s := rfl
@[tree_run] theorem run_reraise : reraise.run env cr s =
    match s.caught with
    | none => .crash
    | some x => .raised x s := rfl
@[tree_run] theorem run_saveWas : saveWas.run env cr s = .normal { s with was := some s.st.flatten } := rfl
@[tree_run] theorem run_setFlatten : setFlatten.run env cr s = .normal { s with st := { s.st with flatten := true } } := rfl
@[tree_run] theorem run_clearFlatten : clearFlatten.run env cr s = .normal { s with st := { s.st with flatten := false } } := rfl
@[tree_run] theorem run_flatten : flatten.run env cr s =
    match s.flattenPred env with
    | none => .crash
    | some useLeaf =>
      match flat env.leafCheck useLeaf env.x s.st with
      | (st', .ok ls d) => .normal { s with st := st', leaves := some ls, d := d }
      | (st', .raised v) => .raised v { s with st := st' } := rfl
@[tree_run] theorem run_structBlock : structBlock.run env cr s =
    match env.S, s.leaves with
    | some str, some _ =>
      (match structStep str s.d s.st.memo.pytree with
       | .ok pm => .normal { s with st := { s.st with memo := { s.st.memo with pytree := pm } } }
       | .fail => .ret false s
       | .annErr => .raised .ANN s
       | .exc e => .raised (.EXC e) s)
    | _, _ => .crash := rfl
@[tree_run] theorem run_forLeaves (body : TStmt) : (forLeaves body).run env cr s =
    match s.leaves with
    | some ls => runFor (fun s' => body.run env cr s') ls 0 s
    | none => .crash := rfl
@[tree_run] theorem run_setTreepath : setTreepath.run env cr s =
    match env.S, s.cur with
    | some str, some (i, _) =>
      if s.st.tp.isSome then .raised .ANN s
      else .normal { s with st := { s.st with tp := some (i, str) } }
    | _, _ => .crash := rfl
@[tree_run] theorem run_clearTreepath : clearTreepath.run env cr s = .normal { s with st := { s.st with tp := none } } := rfl
@[tree_run] theorem run_leafTest (onFalse : TStmt) : (leafTest onFalse).run env cr s =
    match s.cur, s.preds with
    | some (_, x), some anyB =>
      if anyB != env.leafAny then .crash
      else
        (match (if env.leafAny then (s.st, Verdict.T) else env.leafCheck x s.st) with
         | (st', .T) => .normal { s with st := st' }
         | (st', .F) => onFalse.run env cr { s with st := st' }
         | (st', v) => .raised v { s with st := st' })
    | _, _ => .crash := rfl
end TStmt

attribute [tree_run] TCond.eval TSt.flattenPred TCls.covers Option.isSome_none Option.isSome_some Option.isNone_none
  Option.isNone_some Option.map_some Bool.not_false Bool.not_true beq_self_eq_true bne_self_eq_false Bool.false_eq_true
  if_false if_true

/-- the leaf test the model's loop uses -/
def leafCheckOf (env : TEnv) : Obj → CState → CState × Verdict :=
  if env.leafAny then fun _ s => (s, .T) else env.leafCheck

theorem leafCheckOf_apply (env : TEnv) (x : Obj) (st : CState) :
    leafCheckOf env x st = if env.leafAny then (st, .T) else env.leafCheck x st := by
  unfold leafCheckOf
  split <;> rfl

/-- one round of the leaf loop of `_check`, as the model sees it when the label is cleared only by the PyTree that set it
    (`Skel.treepathGuarded`) -/
def leafStepSpec (env : TEnv) (i : Nat) (x : Obj) (s : TSt) : TRes :=
  match (match env.S with
         | none => some s.st
         | some str => if s.st.tp.isSome then none else some { s.st with tp := some (i, str) }) with
  | none => .raised .ANN { s with cur := some (i, x) }
  | some st1 =>
    match leafCheckOf env x st1 with
    | (st2, .T) =>
      .normal { s with st := (if env.S.isNone then st2 else { st2 with tp := none }), cur := some (i, x) }
    | (st2, .F) => .ret false { s with st := st2, cur := some (i, x) }
    | (st2, v) => .raised v { s with st := st2, cur := some (i, x) }

/-- how the outcome of the model's loop looks from inside the interpreter -/
def loopRes (s : TSt) (r : CState × Verdict) : TRes :=
  match r with
  | (st', .T) => .normal { s with st := st', cur := none }
  | (st', .F) => .ret false { s with st := st', cur := none }
  | (st', v) => .raised v { s with st := st', cur := none }

/-- where a loop of the translated code is used: everywhere, or only with / only without a structure name -/
def guardHolds : Option Bool → TEnv → Prop
  | none, _ => True
  | some b, env => env.S.isSome = b

/-- `loopRes` keeps the locals of `s` and nothing of its thread state or loop position -/
theorem loopRes_frame (s : TSt) (st : CState) (c : Option (Nat × Obj)) (r : CState × Verdict) :
    loopRes { s with st := st, cur := c } r = loopRes s r := by
  obtain ⟨st', v⟩ := r
  cases v <;> rfl

theorem runFor_leafLoop (env : TEnv) (sk : Skel) (hg : sk.treepathGuarded = true) (body : TSt → TRes)
    (hb : ∀ i x s, s.preds = some env.leafAny → body { s with cur := some (i, x) } = leafStepSpec env i x s) :
    ∀ (ls : List Obj) (i : Nat) (s : TSt), s.preds = some env.leafAny →
      runFor body ls i s = loopRes s (leafLoop sk (leafCheckOf env) env.S ls i s.st) := by
  intro ls
  induction ls with
  | nil => intro i s _; rfl
  | cons x xs ih =>
    intro i s hp
    rw [runFor, hb i x s hp]
    unfold leafLoop leafStepSpec
    rw [hg]
    generalize env.S = S at ih ⊢
    cases S with
    | none =>
      dsimp only
      generalize leafCheckOf env x s.st = r
      obtain ⟨st2, v⟩ := r
      cases v with
      -- `by exact`: the state `_` of the next round is to come from the goal; given `hp` as it is, it would be taken to be `s`
      | T => exact (ih (i + 1) _ (by exact hp)).trans (loopRes_frame ..)
      | _ => rfl
    | some str =>
      dsimp only
      cases s.st.tp.isSome with
      | true => rfl
      | false =>
        simp only [Bool.false_eq_true, if_false]
        generalize leafCheckOf env x _ = r
        obtain ⟨st2, v⟩ := r
        cases v with
        | T => exact (ih (i + 1) _ (by exact hp)).trans (loopRes_frame ..)
        | _ => rfl

/-- how `_check` leaves: `return True`, `return False`, or the exception in flight -/
def answer : Verdict → TSt → TRes
  | .T, s => .ret true s
  | .F, s => .ret false s
  | v, s => .raised v s

/-- an exception is never the answer True or False -/
def IsExcV : Verdict → Prop
  | .T => False
  | .F => False
  | _ => True

def FlatRes.RaisedOk : FlatRes → Prop
  | .ok _ _ => True
  | .raised v => IsExcV v

def FlatListRes.RaisedOk : FlatListRes → Prop
  | .ok _ _ => True
  | .raised v => IsExcV v

theorem wrapNode_raisedOk (k : Kind) (p : CState × FlatListRes) (h : p.2.RaisedOk) : (wrapNode k p).2.RaisedOk := by
  rcases p with ⟨st, _ | _⟩ <;> exact h

theorem flatList_raisedOk_of (f : Obj → CState → CState × Verdict) (u : Bool) : ∀ (xs : List Obj),
    (∀ c ∈ xs, ∀ st, (flat f u c st).2.RaisedOk) → ∀ st, (flatList f u xs st).2.RaisedOk
  | [], _, st => by rw [flatList]; trivial
  | x :: xs, h, st => by
    have h1 := h x (List.mem_cons_self ..) st
    rw [flatList]
    generalize flat f u x st = r at h1
    obtain ⟨st1, _ | _⟩ := r
    · have h2 := flatList_raisedOk_of f u xs (fun c hc => h c (List.mem_cons_of_mem _ hc)) st1
      dsimp only
      generalize flatList f u xs st1 = r2 at h2
      obtain ⟨st2, _ | _⟩ := r2
      · trivial
      · exact h2
    · exact h1

/-- when flattening does not finish, what comes out is an exception (AnnotationError or user code's), never a verdict -/
theorem flat_raisedOk (f : Obj → CState → CState × Verdict) (u : Bool) :
    ∀ (x : Obj) (st : CState), (flat f u x st).2.RaisedOk := by
  refine Obj.induct_children fun x ih st => ?_
  generalize hr : (if u then f x st else (st, Verdict.F)) = r
  obtain ⟨st', v⟩ := r
  cases v with
  | T => rw [flat_of_T hr]; trivial
  | ANN => rw [flat_of_exc hr nofun nofun]; trivial
  | EXC e => rw [flat_of_exc hr nofun nofun]; trivial
  | F =>
    rcases flat_of_F hr with ⟨_, h⟩ | ⟨e, _, h⟩ | ⟨k, cs, hc, h⟩
    · rw [h]; trivial
    · rw [h]; trivial
    · rw [h]; exact wrapNode_raisedOk _ _ (flatList_raisedOk_of f u cs (ih cs hc) st')

theorem flatList_raisedOk (f : Obj → CState → CState × Verdict) (u : Bool) :
    ∀ (xs : List Obj) (st : CState), (flatList f u xs st).2.RaisedOk :=
  fun xs => flatList_raisedOk_of f u xs fun c _ => flat_raisedOk f u c

/-- the leaf check hands the flatten-mode flag back as it found it (true of every leaf type of the model: a nested
    PyTree switches it on and puts the previous value back) -/
def FlattenKept (f : Obj → CState → CState × Verdict) : Prop := ∀ x st, (f x st).1.flatten = st.flatten

theorem flat_flattenKept (f : Obj → CState → CState × Verdict) (hf : FlattenKept f) (u : Bool) :
    ∀ (x : Obj) (st : CState), (flat f u x st).1.flatten = st.flatten :=
  flat_rel (R := fun a b => b.flatten = a.flatten) (fun _ => rfl) (fun h1 h2 => h2.trans h1) hf u

theorem flatList_flattenKept (f : Obj → CState → CState × Verdict) (hf : FlattenKept f) (u : Bool) :
    ∀ (xs : List Obj) (st : CState), (flatList f u xs st).1.flatten = st.flatten :=
  flatList_rel (R := fun a b => b.flatten = a.flatten) (fun _ => rfl) (fun h1 h2 => h2.trans h1) hf u

end JV
