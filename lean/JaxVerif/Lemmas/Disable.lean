/-
For C19: `_maybestr2bool` on a string, as tests on the lower-cased string.
Core Lean only.
-/
import JaxVerif.Model.Config

namespace JV

theorem cfgLit_0 : "0".toList = ['0'] := by decide
theorem cfgLit_1 : "1".toList = ['1'] := by decide
theorem cfgLit_true : "true".toList = ['t','r','u','e'] := by decide
theorem cfgLit_false : "false".toList = ['f','a','l','s','e'] := by decide

theorem str2bool_str (s : List Char) :
    str2bool (.str s) =
      if lowerStr s = ['0'] ∨ lowerStr s = ['f','a','l','s','e'] then some false
      else if lowerStr s = ['1'] ∨ lowerStr s = ['t','r','u','e'] then some true else none := by
  simp only [str2bool, cfgLit_0, cfgLit_1, cfgLit_true, cfgLit_false, Bool.or_eq_true, decide_eq_true_eq]

theorem lowerStr_eq_iff (s word : List Char) :
    lowerStr s = word ↔
      s.length = word.length ∧ ∀ i (h : i < s.length) (h' : i < word.length), lowerAscii s[i] = word[i] := by
  unfold lowerStr
  constructor
  · intro h
    subst h
    refine ⟨by simp, fun i h h' => by simp⟩
  · rintro ⟨hl, hp⟩
    apply List.ext_getElem
    · simpa using hl
    · intro i h1 h2
      rw [List.getElem_map]
      exact hp i (by simpa using h1) h2

end JV
