/-
Lemmas for C09: structure names bind, compose, prefix and suffix; validation of structure strings.
Core Lean only.
-/
import JaxVerif.Spec.Trees
import JaxVerif.Lemmas.DecEq

namespace JV

mutual
theorem subst_assoc (a b : Def) : ∀ c : Def, Def.subst a (Def.subst b c) = Def.subst (Def.subst a b) c
  | .leaf => rfl
  | .node k cs => congrArg (Def.node k) (substList_assoc a b cs)
theorem substList_assoc (a b : Def) : ∀ cs : List Def,
    Def.substList a (Def.substList b cs) = Def.substList (Def.subst a b) cs
  | [] => rfl
  | c :: cs => by
    rw [Def.substList, Def.substList, subst_assoc a b c, substList_assoc a b cs]
    rfl
end

mutual
theorem subst_leaf : ∀ c : Def, Def.subst .leaf c = c
  | .leaf => rfl
  | .node k cs => congrArg (Def.node k) (substList_leaf cs)
theorem substList_leaf : ∀ cs : List Def, Def.substList .leaf cs = cs
  | [] => rfl
  | c :: cs => by rw [Def.substList, subst_leaf c, substList_leaf cs]
end

/-- with an arbitrary accumulator: the leaves of the accumulator are replaced by the right-nested
    composite of the remaining names -/
theorem composeNamed_acc (pm : List (String × Def)) (names : List String) (defs : List Def) (acc : Def)
    (h : names.map (fun n => pm.lookup n) = defs.map some) :
    composeNamed pm names acc =
      .ok (Def.subst (defs.foldr (fun t acc => Def.subst acc t) .leaf) acc) := by
  induction names generalizing defs acc with
  | nil =>
    cases defs with
    | nil => exact congrArg Res.ok (subst_leaf acc).symm
    | cons => cases h
  | cons n ns ih =>
    cases defs with
    | nil => cases h
    | cons t ds =>
      have h1 : pm.lookup n = some t := (List.cons.inj h).1
      rw [composeNamed, h1, List.foldr_cons, ← subst_assoc]
      exact ih ds (Def.subst t acc) (List.cons.inj h).2

mutual
theorem graft_of_isPrefix : ∀ (t d : Def), Def.isPrefix t d = true →
    ∃ fs, ∀ rest, Def.graft t (fs ++ rest) = some (d, rest)
  | .leaf, d, _ => ⟨[d], fun _ => rfl⟩
  | .node k cs, d, h => by
    cases d with
    | leaf => cases h
    | node k' cs' =>
      obtain ⟨hk, hcs⟩ := Bool.and_eq_true_iff.1 h
      obtain ⟨fs, hfs⟩ := graftList_of_isPrefixList cs cs' hcs
      exact ⟨fs, fun rest => by rw [Def.graft, hfs rest, eq_of_beq hk]⟩
theorem graftList_of_isPrefixList : ∀ (cs ds : List Def), Def.isPrefixList cs ds = true →
    ∃ fs, ∀ rest, Def.graftList cs (fs ++ rest) = some (ds, rest)
  | [], ds, h => by
    cases ds with
    | nil => exact ⟨[], fun _ => rfl⟩
    | cons => cases h
  | c :: cs, ds, h => by
    cases ds with
    | nil => cases h
    | cons d ds =>
      obtain ⟨hc, hcs⟩ := Bool.and_eq_true_iff.1 h
      obtain ⟨f1, h1⟩ := graft_of_isPrefix c d hc
      obtain ⟨f2, h2⟩ := graftList_of_isPrefixList cs ds hcs
      exact ⟨f1 ++ f2, fun rest => by simp only [Def.graftList, List.append_assoc, h1, h2]⟩
end

-- `termination_by structural`: left to itself Lean does not find the structural recursion here and
-- builds the pair by well-founded recursion, which is some ten times dearer to check
mutual
theorem isPrefix_of_graft : ∀ (t d : Def) (fs rest : List Def),
    Def.graft t fs = some (d, rest) → Def.isPrefix t d = true
  | .leaf, _, _, _, _ => rfl
  | .node k cs, d, fs, rest, h => by
    rw [Def.graft] at h
    split at h
    · next cs' _ hg =>
      cases h
      rw [Def.isPrefix, beq_self_eq_true, isPrefixList_of_graftList cs cs' fs _ hg]
      rfl
    · cases h
termination_by structural t => t
theorem isPrefixList_of_graftList : ∀ (cs ds : List Def) (fs rest : List Def),
    Def.graftList cs fs = some (ds, rest) → Def.isPrefixList cs ds = true
  | [], ds, fs, rest, h => by
    cases h
    rfl
  | c :: cs, ds, fs, rest, h => by
    rw [Def.graftList] at h
    split at h
    · cases h
    · next c' r h1 =>
      split at h
      · cases h
      · next cs' _ h2 =>
        cases h
        rw [Def.isPrefixList, isPrefix_of_graft c c' fs r h1, isPrefixList_of_graftList cs cs' r _ h2]
        rfl
termination_by structural cs => cs
end

theorem isSuffix_self : ∀ t : Def, Def.isSuffix t t = true
  | .leaf => rfl
  | .node k cs => by
    rw [Def.isSuffix, Rollback.beq_refl]
    rfl

mutual
theorem isSuffix_subst (t : Def) : ∀ u : Def, Def.isSuffix t (Def.subst t u) = true
  | .leaf => isSuffix_self t
  | .node k us => by
    rw [Def.subst, Def.isSuffix, isSuffixList_substList t us]
    exact Bool.or_true _
theorem isSuffixList_substList (t : Def) : ∀ us : List Def,
    Def.isSuffixList t (Def.substList t us) = true
  | [] => rfl
  | u :: us => by
    rw [Def.substList, Def.isSuffixList, isSuffix_subst t u, isSuffixList_substList t us]
    rfl
end

mutual
theorem subst_of_isSuffix (t : Def) : ∀ d : Def, Def.isSuffix t d = true → ∃ u, d = Def.subst t u
  | .leaf, h => ⟨.leaf, Rollback.beq_eq _ _ h⟩
  | .node k cs, h => by
    rcases Bool.or_eq_true_iff.1 h with h | h
    · exact ⟨.leaf, Rollback.beq_eq _ _ h⟩
    · obtain ⟨us, hus⟩ := substList_of_isSuffixList t cs h
      exact ⟨.node k us, congrArg (Def.node k) hus⟩
theorem substList_of_isSuffixList (t : Def) : ∀ cs : List Def, Def.isSuffixList t cs = true →
    ∃ us, cs = Def.substList t us
  | [], _ => ⟨[], rfl⟩
  | c :: cs, h => by
    obtain ⟨hc, hcs⟩ := Bool.and_eq_true_iff.1 h
    obtain ⟨u, hu⟩ := subst_of_isSuffix t c hc
    obtain ⟨us, hus⟩ := substList_of_isSuffixList t cs hcs
    exact ⟨u :: us, by rw [Def.substList, ← hu, ← hus]⟩
end

theorem piecesOk_head_false_iff (i n : Nat) (p : List Char) :
    ((((i == 0 || i == n - 1) && p == ellipsisTok) || isIdentifier p) = false) ↔
      (isIdentifier p = false ∧ ¬ ((i = 0 ∨ i = n - 1) ∧ p = ellipsisTok)) := by
  rw [Bool.or_eq_false_iff, and_comm, ← Bool.not_eq_true (_ && _), Bool.and_eq_true, Bool.or_eq_true,
    beq_iff_eq, beq_iff_eq, beq_iff_eq]

/-- the piece at position `i` of `ps` is the `i + k`-th of the whole string -/
theorem piecesOk_false_iff (ps : List (List Char)) (k n : Nat) :
    piecesOk ps k n = false ↔
      ∃ i p, ps[i]? = some p ∧ isIdentifier p = false ∧
        ¬ ((i + k = 0 ∨ i + k = n - 1) ∧ p = ellipsisTok) := by
  induction ps generalizing k with
  | nil =>
    constructor
    · exact Bool.noConfusion
    · rintro ⟨_, _, ⟨⟩, _⟩
  | cons q ps ih =>
    rw [piecesOk, Bool.and_eq_false_iff, piecesOk_head_false_iff, ih]
    constructor
    · rintro (⟨h1, h2⟩ | ⟨i, p, hp, h1, h2⟩)
      · exact ⟨0, q, rfl, h1, by rwa [Nat.zero_add]⟩
      · exact ⟨i + 1, p, hp, h1, by rwa [Nat.add_right_comm]⟩
    · rintro ⟨i, p, hp, h1, h2⟩
      cases i with
      | zero =>
        cases hp
        exact .inl ⟨h1, by rwa [Nat.zero_add] at h2⟩
      | succ i => exact .inr ⟨i, p, hp, h1, by rwa [Nat.add_right_comm] at h2⟩

theorem piecesOk_append (as bs : List (List Char)) (k n : Nat) :
    piecesOk (as ++ bs) k n = (piecesOk as k n && piecesOk bs (k + as.length) n) := by
  induction as generalizing k with
  | nil => rfl
  | cons a as ih =>
    rw [List.cons_append, piecesOk, piecesOk, ih, Bool.and_assoc, List.length_cons, Nat.add_right_comm]
    rfl

theorem piecesOk_idents (ids : List (List Char)) (k n : Nat)
    (h : ∀ p ∈ ids, isIdentifier p = true) : piecesOk ids k n = true := by
  induction ids generalizing k with
  | nil => rfl
  | cons p ids ih =>
    rw [piecesOk, h p List.mem_cons_self, Bool.or_true, Bool.true_and]
    exact ih _ fun q hq => h q (List.mem_cons_of_mem _ hq)

theorem piecesOk_ellipsis (k n : Nat) (h : k = 0 ∨ k = n - 1) :
    piecesOk [ellipsisTok] k n = true := by
  rw [piecesOk, Bool.or_eq_true_iff.2 (h.imp beq_iff_eq.2 beq_iff_eq.2)]
  rfl

end JV
