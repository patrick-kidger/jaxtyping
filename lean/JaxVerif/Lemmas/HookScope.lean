/-
Lemmas for C11: scope of the import hook (dotted prefixes), first import decides.
-/
import JaxVerif.Model.HookScope

namespace JV

theorem splitDots_ne_nil (m : MName) : ∃ p ps, splitDots m = p :: ps := by
  induction m with
  | nil => exact ⟨[], [], rfl⟩
  | cons c cs ih =>
    obtain ⟨p, ps, h⟩ := ih
    by_cases hc : c = '.'
    · exact ⟨[], p :: ps, by simp [splitDots, h, hc]⟩
    · exact ⟨c :: p, ps, by simp [splitDots, h, hc]⟩

theorem splitDots_cons_dot (cs : MName) : splitDots ('.' :: cs) = [] :: splitDots cs := by
  obtain ⟨p, ps, h⟩ := splitDots_ne_nil cs
  simp [splitDots, h]

theorem splitDots_cons_ne {c : Char} {cs p : MName} {ps : List MName} (hc : c ≠ '.')
    (h : splitDots cs = p :: ps) : splitDots (c :: cs) = (c :: p) :: ps := by
  simp [splitDots, h, hc]

/-- a first character is compared with a first character, whether or not it is a dot -/
theorem splitDots_isPrefixOf_cons (c d : Char) (cs ds : MName) :
    (splitDots (c :: cs)).isPrefixOf (splitDots (d :: ds)) =
      (c == d && (splitDots cs).isPrefixOf (splitDots ds)) := by
  obtain ⟨p, ps, hp⟩ := splitDots_ne_nil cs
  obtain ⟨q, qs, hq⟩ := splitDots_ne_nil ds
  by_cases hc : c = '.' <;> by_cases hd : d = '.'
  · subst hc hd
    rw [splitDots_cons_dot, splitDots_cons_dot]
    rfl
  · subst hc
    rw [splitDots_cons_dot, splitDots_cons_ne hd hq, beq_false_of_ne (Ne.symm hd)]
    rfl
  · subst hd
    rw [splitDots_cons_dot, splitDots_cons_ne hc hp, beq_false_of_ne hc]
    rfl
  · rw [splitDots_cons_ne hc hp, splitDots_cons_ne hd hq, hp, hq]
    exact Bool.and_assoc ..

/-- the component lists are in the prefix relation iff the names are equal or one extends the
    other by a dot (no well-formedness needed) -/
theorem splitDots_isPrefixOf (h m : MName) :
    (splitDots h).isPrefixOf (splitDots m) = (m == h || (h ++ ['.']).isPrefixOf m) := by
  induction h generalizing m with
  | nil =>
    cases m with
    | nil => rfl
    | cons d ds =>
      obtain ⟨q, qs, hq⟩ := splitDots_ne_nil ds
      by_cases hd : d = '.'
      · subst hd
        rw [splitDots_cons_dot]
        rfl
      · rw [splitDots_cons_ne hd hq]
        show false = (false || ('.' == d && true))
        rw [beq_false_of_ne (Ne.symm hd)]
        rfl
  | cons c cs ih =>
    cases m with
    | nil =>
      obtain ⟨p, ps, hp⟩ := splitDots_ne_nil cs
      by_cases hc : c = '.'
      · subst hc
        rw [splitDots_cons_dot, hp]
        rfl
      · rw [splitDots_cons_ne hc hp]
        rfl
    | cons d ds =>
      rw [splitDots_isPrefixOf_cons, ih]
      by_cases hcd : c = d
      · subst hcd
        simp
      · simp [beq_false_of_ne hcd, beq_false_of_ne (Ne.symm hcd), List.isPrefixOf]

theorem shouldInstrument_eq_components (hooked : List MName) (m : MName) :
    shouldInstrument hooked m = hooked.any fun h => (splitDots h).isPrefixOf (splitDots m) := by
  simp only [shouldInstrument, splitDots_isPrefixOf]

theorem importStep_lookup_stable {s : ImportState} (op : ImportOp) {m : MName} {k : LoadKind}
    (h : s.loaded.lookup m = some k) : (importStep s op).loaded.lookup m = some k := by
  cases op with
  | install names checker => exact h
  | uninstall id => exact h
  | importMod m' =>
    cases hl : s.loaded.lookup m' with
    | some k' => rwa [importStep, hl]
    | none =>
      -- `m'` is not loaded and `m` is: they differ, so the new entry is not the one looked up
      have hne : (m == m') = false := beq_false_of_ne fun e => by
        rw [e, hl] at h
        cases h
      simp only [importStep, hl, List.lookup_cons, hne]
      exact h

theorem importRun_append (s : ImportState) (ops₁ ops₂ : List ImportOp) :
    importRun s (ops₁ ++ ops₂) = importRun (importRun s ops₁) ops₂ :=
  List.foldl_append

theorem importStep_fresh {s : ImportState} {m : MName} (hf : s.loaded.lookup m = none) :
    (importStep s (.importMod m)).loaded.lookup m =
      some (match firstMatch s.metaPath m with
            | some h => .instrumented h.checker
            | none => .plain) := by
  simp only [importStep, hf, List.lookup_cons, beq_self_eq_true]
  cases firstMatch s.metaPath m <;> rfl

theorem firstMatch_mem {hs : List Hook} {m : MName} {h : Hook} (hh : firstMatch hs m = some h) :
    h ∈ hs := by
  induction hs with
  | nil => cases hh
  | cons a as ih =>
    rw [firstMatch] at hh
    split at hh
    · cases hh
      exact List.mem_cons_self
    · exact List.mem_cons_of_mem _ (ih hh)

end JV
