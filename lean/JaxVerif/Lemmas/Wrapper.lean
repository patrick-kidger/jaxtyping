/-
For C07: `_gensym` is fresh (pigeonhole over `names.length + 1` pairwise distinct
candidates) and the invariant of the scope generated by `_make_fn_with_signature`.
Core Lean + `Std.Data.String.ToNat` (injectivity of `Nat.repr`); no Mathlib.
-/
import Std.Data.String.ToNat
import JaxVerif.Model.Gensym

namespace JV

theorem gensymFrom_form (names : List String) (pre : String) :
    ∀ fuel i, ∃ j : Nat, gensymFrom names pre fuel i = pre ++ toString j
  | 0, i => ⟨i, rfl⟩
  | fuel + 1, i => by
    simp only [gensymFrom]
    split
    · exact gensymFrom_form names pre fuel (i + 1)
    · exact ⟨i, rfl⟩

/-- if the search ends on a name that is taken, every candidate it looked at is taken -/
theorem gensymFrom_taken (names : List String) (pre : String) :
    ∀ fuel i, gensymFrom names pre fuel i ∈ names →
      ∀ k, i ≤ k → k ≤ i + fuel → pre ++ toString k ∈ names
  | 0, i, h, k, h1, h2 => by
    have : k = i := by omega
    subst this; exact h
  | fuel + 1, i, h, k, h1, h2 => by
    simp only [gensymFrom] at h
    split at h
    · next hc =>
      by_cases hk : k = i
      · subst hk; simpa using hc
      · exact gensymFrom_taken names pre fuel (i + 1) h k (by omega) (by omega)
    · next hc =>
      exact absurd h (by simpa using hc)

theorem gensym_fresh (names : List String) (pre : String) : gensym names pre ∉ names := by
  intro h
  have hall := gensymFrom_taken names pre names.length 0 h
  have hnd : ((List.range (names.length + 1)).map fun i => pre ++ toString i).Nodup := by
    unfold List.Nodup
    rw [List.pairwise_map]
    exact List.nodup_range.imp fun hab e =>
      hab (Nat.repr_injective ((String.append_right_inj pre).1 e))
  have hsub : ((List.range (names.length + 1)).map fun i => pre ++ toString i) ⊆ names := by
    intro x hx
    obtain ⟨k, hk, rfl⟩ := List.mem_map.mp hx
    exact hall k (Nat.zero_le _) (by simpa using Nat.le_of_lt_succ (List.mem_range.mp hk))
  have := hnd.length_le_of_subset hsub
  simp only [List.length_map, List.length_range] at this
  omega

theorem nodup_concat {α : Type} {l : List α} {x : α} (hl : l.Nodup) (hx : x ∉ l) :
    (l ++ [x]).Nodup := by
  rw [List.nodup_append]
  refine ⟨hl, List.pairwise_singleton .., fun a ha b hb e => hx ?_⟩
  rw [← List.mem_singleton.1 hb, ← e]
  exact ha

/-- invariant of `genScope`: non-empty, no repetitions, everything after the function's own name
    avoids the parameter names -/
def ScopeOk (ps scope : List String) : Prop :=
  scope ≠ [] ∧ scope.Nodup ∧ ∀ x ∈ scope.drop 1, x ∉ ps

theorem ScopeOk_snoc {ps scope : List String} (pre : String) (h : ScopeOk ps scope) :
    ScopeOk ps (scope ++ [gensym (scope ++ ps) pre]) := by
  obtain ⟨hne, hnd, hdr⟩ := h
  have hf := gensym_fresh (scope ++ ps) pre
  rw [List.mem_append, not_or] at hf
  refine ⟨by simp, nodup_concat hnd hf.1, ?_⟩
  cases scope with
  | nil => exact absurd rfl hne
  | cons s0 tl =>
    simp only [List.cons_append, List.drop_succ_cons, List.drop_zero, List.mem_append,
      List.mem_singleton] at hdr ⊢
    rintro x (hx | rfl)
    · exact hdr x hx
    · exact hf.2

theorem genScope_ok {fnName : String} {ps scope : List String} {n : Nat} (h : ScopeOk ps scope) :
    ScopeOk ps (genScope fnName ps n scope) := by
  induction n generalizing scope with
  | zero => exact h
  | succ n ih => exact ih (ScopeOk_snoc "default" (ScopeOk_snoc "T" h))

end JV
