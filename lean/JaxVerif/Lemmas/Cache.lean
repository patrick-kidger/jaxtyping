/-
Lemmas about the cache of Model/Cache.lean: what a lookup finds after a store, and the tag a load uses when the
cache-name patch is confined to `get_code` (C18).
-/
import JaxVerif.Model.Cache

namespace JV

theorem lookup_filter_ne {α β : Type} [BEq α] [LawfulBEq α] (c : List (α × β)) {k k' : α}
    (h : k' ≠ k) : (c.filter (fun e => e.1 != k)).lookup k' = c.lookup k' := by
  induction c with
  | nil => rfl
  | cons e c ih =>
    obtain ⟨a, b⟩ := e
    by_cases ha : a = k
    · subst ha
      have : (k' == a) = false := beq_false_of_ne h
      simp [List.lookup_cons, this, ih]
    · have : (a != k) = true := bne_iff_ne.2 ha
      simp only [List.filter_cons, this, if_true, List.lookup_cons, ih]

theorem cacheLookup_store (c : Cache) (k k' : String × Tag) (v : Nat × CodeDesc) :
    cacheLookup (cacheStore c k v) k' = if k' = k then some v else cacheLookup c k' := by
  unfold cacheLookup cacheStore
  by_cases h : k' = k
  · rw [h, List.lookup_cons_self, if_pos rfl]
  · rw [List.lookup_cons, beq_false_of_ne h, if_neg h]
    exact lookup_filter_ne c h

theorem tagFor_getCode (w : Bool) (l : Load) :
    tagFor .getCode w l = (match l.hookedWith with | some key => .jaxtyping key | none => .default) := by
  unfold tagFor
  cases l.hookedWith <;> cases w <;> rfl

/-- the tag of a load says how the load is instrumented -/
theorem instr_tagFor_getCode (w : Bool) (l : Load) :
    (match (tagFor .getCode w l) with | .default => none | .jaxtyping key => some key) = l.hookedWith := by
  rw [tagFor_getCode]
  cases l.hookedWith <;> rfl

end JV
