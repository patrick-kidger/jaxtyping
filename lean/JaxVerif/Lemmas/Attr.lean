/-
Simp sets of the development. A set has to be declared in a module of its own, before the modules that fill it.
-/
import Lean.Meta.Tactic.Simp.RegisterCommand

/-- running translated PyTree code (Model/TreeDsl.lean) statement by statement: one equation per statement form, the
    constructor cases of the sequencing combinators, and the Boolean / Option steps in between; filled in
    Lemmas/TreeDsl.lean -/
register_simp_attr tree_run

/-- running translated parser code (Model/ParserDsl.lean) on a state some of whose fields are variables: the
    continuation-passing rules for the composite statements and conditions, the equations of the interpreter for the
    others, and the Boolean / Option steps in between; filled in Lemmas/ParserDsl.lean -/
register_simp_attr parser_run
