/-
The model of annotation building and pickling (`Model/Make.lean`; C15, C20): dtype intersection, `strip`, the
invariant `Made.WF` of every annotation that can be built and the nesting law on such annotations (`makeArray_made`),
unions (`getitemAtoms_*`), the reducer's round trip (`rebuild_reduce`), at most one multi-axis specifier
(`parseToks_count`), pickling by value.
-/
import JaxVerif.Model.Make
import JaxVerif.Lemmas.Parse

namespace JV

/-- the intersection accepts exactly the dtypes both parts accept; when there is none, nothing is
    accepted by both -/
theorem inter_accepts (o i : DtypeSpec) (d : String) :
    (DtypeSpec.inter o i).any (·.accepts d) = (o.accepts d && i.accepts d) := by
  cases o with
  | any => rfl
  | names l =>
    cases i with
    | any => exact (Bool.and_true _).symm
    | names l' =>
      have hr : (l.filter (fun x => l'.contains x)).contains d = (l.contains d && l'.contains d) := by
        rw [Bool.eq_iff_iff]
        simp [List.mem_filter]
      refine Eq.trans ?_ hr
      unfold DtypeSpec.inter
      dsimp only
      split
      · next he => rw [List.isEmpty_iff.mp he]; rfl
      · rfl

theorem inter_none_disjoint (o i : DtypeSpec) (h : DtypeSpec.inter o i = none) (d : String) :
    (o.accepts d && i.accepts d) = false := by
  rw [← inter_accepts, h]
  rfl

/-- nesting is an error exactly when both parts list their dtypes and the lists share nothing -/
theorem inter_none_iff (o i : DtypeSpec) :
    DtypeSpec.inter o i = none ↔
      ∃ l l', o = .names l ∧ i = .names l' ∧ ∀ d, ¬ (d ∈ l ∧ d ∈ l') := by
  constructor
  · intro h
    cases o with
    | any => cases h
    | names l =>
      cases i with
      | any => cases h
      | names l' =>
        refine ⟨l, l', rfl, rfl, fun d hd => ?_⟩
        have hn := inter_none_disjoint _ _ h d
        have h1 : (DtypeSpec.names l).accepts d = true := List.contains_iff_mem.mpr hd.1
        have h2 : (DtypeSpec.names l').accepts d = true := List.contains_iff_mem.mpr hd.2
        rw [h1, h2] at hn
        cases hn
  · rintro ⟨l, l', rfl, rfl, hd⟩
    have : l.filter (fun x => l'.contains x) = [] :=
      List.filter_eq_nil_iff.mpr fun a ha h2 => hd a ⟨ha, List.contains_iff_mem.mp h2⟩
    unfold DtypeSpec.inter
    dsimp only
    rw [this]
    rfl

theorem inter_any_only (o i : DtypeSpec) (h : DtypeSpec.inter o i = some .any) : o = .any := by
  cases o with
  | any => rfl
  | names l =>
    cases i with
    | any => cases h
    | names l' =>
      unfold DtypeSpec.inter at h
      dsimp only at h
      split at h <;> cases h

theorem stripLeft_allWs_append (w s : List Char) (hw : AllWs w) : stripLeft (w ++ s) = stripLeft s :=
  ignores_prefix (fun _ _ hc => if_pos hc) s hw

theorem stripLeft_spec (s : List Char) : ∃ w, AllWs w ∧ s = w ++ stripLeft s := by
  induction s with
  | nil => exact ⟨[], List.forall_mem_nil _, rfl⟩
  | cons c cs ih =>
    unfold stripLeft
    cases hc : isWs c with
    | false => exact ⟨[], List.forall_mem_nil _, rfl⟩
    | true =>
      obtain ⟨w, hw, he⟩ := ih
      exact ⟨c :: w, List.forall_mem_cons.mpr ⟨hc, hw⟩, congrArg (c :: ·) he⟩

/-- `dim_str.strip()` never changes how the string splits into axes -/
theorem splitWs_strip (s : List Char) : splitWs (stripWs s) = splitWs s := by
  obtain ⟨w₁, hw₁, e₁⟩ := stripLeft_spec s
  obtain ⟨w₂, hw₂, e₂⟩ := stripLeft_spec (stripLeft s).reverse
  have hmid : stripLeft s = (stripLeft (stripLeft s).reverse).reverse ++ w₂.reverse := by
    simpa using congrArg List.reverse e₂
  have hw₂r : AllWs w₂.reverse := fun c hc => hw₂ c (by simpa using hc)
  unfold stripWs
  conv => rhs; rw [e₁, splitWs_ws hw₁, hmid]
  rw [splitWs_append_ws _ hw₂r]

theorem parseSpec_strip (s : List Char) : parseSpec (stripWs s) = parseSpec s := by
  unfold parseSpec
  rw [splitWs_strip]

/-- what every annotation `_make_array` produces satisfies: its stored string re-parses to its
    stored axes, and it accepts any dtype only if its category does -/
structure Made.WF (m : Made) : Prop where
  parse : parseSpec m.dimStr = some (m.dims, m.iv)
  dt : m.dtypes = .any → m.cat.dtypes = .any

/-- **nesting, in full**: wrapping a made annotation `m` in category `cat` with string `s` stores
    what parsing `s ++ " " ++ m.dim_str` gives, the intersected dtypes and `m`'s array type; it is
    an error when the dtypes do not overlap or that string does not parse (`parseSpec_concat_eq`:
    one of the two strings does not, or both have a multi-axis specifier) -/
theorem makeArray_made (cat : Category) (m : Made) (hw : m.WF) (s : List Char) :
    makeArray cat (.made m) s =
      match DtypeSpec.inter cat.dtypes m.dtypes with
      | none => .valueError
      | some dt =>
        match parseSpec (s ++ ' ' :: m.dimStr) with
        | none => .valueError
        | some (dims, iv) => .made ⟨cat, m.arrayType, s ++ ' ' :: m.dimStr, dt, dims, iv⟩ := by
  rw [parseSpec_concat_eq, hw.parse]
  unfold makeArray
  obtain ⟨_, _, _, _, _, iv₁⟩ := m
  cases parseSpec s with
  | none => cases DtypeSpec.inter cat.dtypes _ <;> rfl
  | some p =>
    obtain ⟨dims, iv⟩ := p
    dsimp only
    cases DtypeSpec.inter cat.dtypes _ with
    | none => rfl
    | some dt => cases iv₁ <;> cases iv <;> rfl

theorem makeArray_wf (cat : Category) (a : Atom) (s : List Char) (m : Made)
    (ha : ∀ inner, a = .made inner → inner.WF) (h : makeArray cat a s = .made m) : m.WF := by
  cases a with
  | made inner =>
    rw [makeArray_made cat inner (ha inner rfl)] at h
    split at h
    · cases h
    · next dt hi =>
      split at h
      · cases h
      · next hp =>
        cases h
        exact ⟨hp, fun e => inter_any_only _ _ (hi.trans (congrArg some e))⟩
  | scalar sc =>
    unfold makeArray at h
    split at h
    · cases h
    · dsimp only at h
      split at h <;> cases h
  | cls c | any =>
    unfold makeArray at h
    split at h
    · cases h
    · next hs => cases h; exact ⟨hs, id⟩

inductive CoreOut
  | made (c : Core)
  | scalar (s : ScalarTy)
  | notMade
  | valueError
  deriving DecidableEq, Repr

def MakeOut.toCore : MakeOut → CoreOut
  | .made m => .made m.core
  | .scalar s => .scalar s
  | .notMade => .notMade
  | .valueError => .valueError

/-- the array type of a made annotation as something `_make_array` can be handed -/
def atomOf (arrayType : String) : Atom := if arrayType = "" then .any else .cls arrayType

theorem makeArray_atomOf (cat : Category) (t : String) (s : List Char) :
    makeArray cat (atomOf t) s =
      match parseSpec s with
      | none => .valueError
      | some (dims, iv) => .made { cat := cat, arrayType := t, dimStr := s, dtypes := cat.dtypes, dims := dims, iv := iv } := by
  unfold atomOf makeArray
  cases parseSpec s with
  | none => rfl
  | some p =>
    by_cases ht : t = ""
    · subst ht; rfl
    · rw [if_neg ht]

theorem nest_error_iff (cat : Category) (m : Made) (s : List Char) :
    makeArray cat (.made m) s = .valueError ↔
      parseSpec s = none ∨ DtypeSpec.inter cat.dtypes m.dtypes = none ∨
      (∃ dims j, parseSpec s = some (dims, some j) ∧ m.iv.isSome = true) := by
  unfold makeArray
  cases parseSpec s with
  | none => exact ⟨fun _ => .inl rfl, fun _ => rfl⟩
  | some p =>
    obtain ⟨dims, iv⟩ := p
    dsimp only
    cases DtypeSpec.inter cat.dtypes m.dtypes with
    | none => exact ⟨fun _ => .inr (.inl rfl), fun _ => rfl⟩
    | some dt =>
      dsimp only
      cases m.iv <;> cases iv <;> simp

theorem alt?_of_isError (o : MakeOut) (h : o.isError = true) : o.alt? = none := by
  cases o with
  | valueError => rfl
  | made _ | scalar _ | notMade => cases h

theorem isError_iff (o : MakeOut) : o.isError = true ↔ o = .valueError := by
  cases o with
  | valueError => exact ⟨fun _ => rfl, fun _ => rfl⟩
  | made _ | scalar _ | notMade => exact ⟨(nomatch ·), (nomatch ·)⟩

theorem getitemAtoms_single (cat : Category) (a : Atom) (s : List Char) :
    getitemAtoms cat [a] s =
      match (makeArray cat a s).alt? with
      | some alt => .alts [alt]
      | none => .valueError := by
  unfold getitemAtoms
  dsimp only [List.map, List.any, List.filterMap]
  cases makeArray cat a s <;> rfl

/-- **the union law, alternatives**: the members of `D[Union[a₁, …], s]` are exactly the
    annotations `D[aᵢ, s]` that exist, in the order of the `aᵢ` -/
theorem getitemAtoms_alts {cat : Category} {as : List Atom} {s : List Char} {l : List Alt}
    (h : getitemAtoms cat as s = .alts l) : l = as.filterMap fun a => (makeArray cat a s).alt? := by
  unfold getitemAtoms at h
  dsimp only at h
  rw [List.filterMap_map] at h
  split at h
  · cases h
  · split at h
    · cases h
    · cases h; rfl

theorem getitemAtoms_error_iff (cat : Category) (as : List Atom) (s : List Char) :
    getitemAtoms cat as s = .valueError ↔
      (∃ a ∈ as, makeArray cat a s = .valueError) ∨ (∀ a ∈ as, (makeArray cat a s).alt? = none) := by
  have he : (as.map fun a => makeArray cat a s).any MakeOut.isError = true ↔
      ∃ a ∈ as, makeArray cat a s = .valueError := by
    simp only [List.any_map, List.any_eq_true, Function.comp, isError_iff]
  have hn : (as.map fun a => makeArray cat a s).filterMap MakeOut.alt? = [] ↔
      ∀ a ∈ as, (makeArray cat a s).alt? = none := by
    simp only [List.filterMap_map, List.filterMap_eq_nil_iff, Function.comp]
  unfold getitemAtoms
  rw [← he, ← hn]
  dsimp only
  split
  · next h => exact ⟨fun _ => .inl h, fun _ => rfl⟩
  · next h =>
    split
    · next h' => exact ⟨fun _ => .inr h', fun _ => rfl⟩
    · next h' => exact ⟨(nomatch ·), (Or.elim · (absurd · h) (absurd · h'))⟩

/-! ### acceptance, generically in how a made annotation / a scalar type is checked -/

section accept
variable {V : Type} (chk : Core → V → Bool) (sc : ScalarTy → V → Bool)

def Alt.accepts : Alt → V → Bool
  | .made m, v => chk m.core v
  | .scalar s, v => sc s v

/-- typeguard on `Union[...]`: some alternative accepts; an error is no annotation at all -/
def GetOut.accepts : GetOut → V → Bool
  | .valueError, _ => false
  | .alts l, v => l.any (fun a => Alt.accepts chk sc a v)

end accept

/-- the dtypes the reducer hands over, or else the category's own, are the annotation's -/
theorem reduce_dtypes (m : Made) (hw : m.WF) : (reduce true m).dtypes.getD m.cat.dtypes = m.dtypes := by
  unfold reduce
  rw [if_pos rfl]
  cases h : m.dtypes with
  | any => exact hw.dt h
  | names l =>
    dsimp only
    split
    · next he => exact he.symm
    · rfl

/-- `_unpickle_array_annotation` on top of a `__getitem__` that made one annotation: the carried
    dtypes, if any, are installed over its own -/
theorem rebuild_eq (r : Reduced) (m : Made)
    (h : getitem r.cat (.atom (atomOf r.arrayType)) r.dimStr = .alts [.made m]) :
    rebuild r = .alts [.made { m with dtypes := r.dtypes.getD m.dtypes }] := by
  unfold atomOf at h
  unfold rebuild
  dsimp only
  rw [h]
  cases r.dtypes <;> rfl

/-- **the round trip, in full**: rebuilding what the reducer hands over gives the annotation back,
    attribute for attribute, with its string stripped -/
theorem rebuild_reduce (m : Made) (hw : m.WF) :
    rebuild (reduce true m) = .alts [.made { m with dimStr := stripWs m.dimStr }] := by
  have hg : getitem m.cat (.atom (atomOf m.arrayType)) m.dimStr =
      .alts [.made { m with dimStr := stripWs m.dimStr, dtypes := m.cat.dtypes }] := by
    show getitemAtoms _ [_] _ = _
    rw [getitemAtoms_single, makeArray_atomOf, parseSpec_strip, hw.parse]
    rfl
  rw [rebuild_eq (reduce true m) _ hg]
  dsimp only
  rw [reduce_dtypes m hw]

/-! ### at most one multi-axis specifier; shapes that admit rank 0 -/

/-- the Boolean `parseTok` returns beside an axis (`isVar` in `parseToks`) says whether it is a multi-axis specifier -/
def IsVarOk (r : Option (PDim × Bool)) : Prop := ∀ p ∈ r, p.2 = p.1.isVariadic

theorem IsVarOk.none : IsVarOk none := fun _ h => nomatch h

theorem IsVarOk.some {d : PDim} {v : Bool} (h : v = d.isVariadic) : IsVarOk (some (d, v)) := by
  intro p hp
  cases hp
  exact h

theorem IsVarOk.ite {c : Prop} [Decidable c] {a b : Option (PDim × Bool)} (ha : IsVarOk a) (hb : IsVarOk b) :
    IsVarOk (if c then a else b) := by
  split
  · exact ha
  · exact hb

theorem axisOfStripped_isVarOk : ∀ o, IsVarOk (axisOfStripped o)
  | .none => .none
  | .some (base, m) => by
    dsimp only [axisOfStripped]
    cases classify base with
    | fixed k => exact .ite .none (.some rfl)
    | named => exact .ite (.ite .none (.ite (.some rfl) (.some rfl))) (.ite (.some rfl) (.some rfl))
    | symbolic => exact .ite .none (.some rfl)

theorem parseTok_isVarOk (t : List Char) : IsVarOk (parseTok t) := by
  rw [parseTok_eq]
  exact .ite .none (.ite .none (.ite (.ite .none (.some rfl)) (axisOfStripped_isVarOk _)))

/-- the number of multi-axis specifiers among the axes is 1 when an index is reported and 0 when
    none is -/
theorem parseToks_count {ts : List (List Char)} {idx : Nat} {iv0 : Option Nat} {ds : List PDim}
    {iv : Option Nat} (h : parseToks ts idx iv0 = some (ds, iv)) :
    ds.countP PDim.isVariadic + iv0.isSome.toNat = iv.isSome.toNat := by
  fun_induction parseToks ts idx iv0 generalizing ds with
  | case1 => cases h; exact Nat.zero_add _
  | case2 | case3 | case4 => cases h
  | case5 t ts idx iv0 d v hp hc ds' _ hr ih =>
    cases h
    rw [List.countP_cons, ← parseTok_isVarOk t _ hp, ← ih hr]
    cases v with
    | false => rfl
    | true =>
      rw [Bool.true_and, Bool.not_eq_true] at hc
      rw [hc]
      rfl

/-- the rank test of `_check_shape`, on parsed axes and as a `Bool` (`Shape.rankOk`, Lemmas/Array.lean, is the same
    test as a `Prop`, on the split form of the axes that the checker walks) -/
def rankOk (dims : List PDim) (iv : Option Nat) (r : Nat) : Bool :=
  match iv with
  | none => r == dims.length
  | some _ => dims.length - 1 ≤ r

/-- **shapes that admit rank 0**: for a parsed specification, every axis is a multi-axis
    specifier exactly when a rank-0 value passes the rank test -/
theorem all_variadic_iff_rank0 (s : List Char) (dims : List PDim) (iv : Option Nat)
    (h : parseSpec s = some (dims, iv)) :
    dims.all PDim.isVariadic = true ↔ rankOk dims iv 0 = true := by
  have hc : dims.countP PDim.isVariadic = iv.isSome.toNat := parseToks_count h
  rw [List.all_eq_true, ← List.countP_eq_length, hc]
  cases iv with
  | none => exact beq_iff_eq.symm
  | some i =>
    have hl : 1 ≤ dims.length := Nat.le_trans (Nat.le_of_eq hc.symm) List.countP_le_length
    constructor
    · intro e
      exact decide_eq_true (Nat.sub_le_of_le_add (Nat.le_of_eq e.symm))
    · intro e
      exact Nat.le_antisymm hl (Nat.sub_le_iff_le_add.mp (of_decide_eq_true e))

theorem mapM_eq_some_self {α : Type} {f : α → Option α} :
    ∀ {l : List α}, (∀ a ∈ l, f a = some a) → l.mapM f = some l
  | [], _ => rfl
  | a :: l, h => by
    rw [List.mapM_cons, h a List.mem_cons_self, mapM_eq_some_self fun b hb => h b (List.mem_cons_of_mem a hb)]
    rfl

theorem mapM_eq_none_iff {α β : Type} {f : α → Option β} :
    ∀ {l : List α}, l.mapM f = none ↔ ∃ a ∈ l, f a = none
  | [] => ⟨(nomatch ·), fun ⟨_, h, _⟩ => nomatch h⟩
  | a :: l => by
    simp only [List.mapM_cons, List.mem_cons, exists_eq_or_imp]
    cases f a with
    | none => exact ⟨fun _ => .inl rfl, fun _ => rfl⟩
    | some b =>
      rw [← mapM_eq_none_iff (l := l)]
      cases l.mapM f with
      | none => exact ⟨fun _ => .inr rfl, fun _ => rfl⟩
      | some bs => exact ⟨(nomatch ·), (Or.elim · (nomatch ·) (nomatch ·))⟩

theorem byValueDim_true (d : PDim) : byValueDim true d = some d := by
  cases d <;> rfl

theorem byValueDtypes_true (t : DtypeSpec) : byValueDtypes true t = some t := by
  cases t <;> rfl

theorem byValueDim_false_none_iff (d : PDim) : byValueDim false d = none ↔ d = .anon ∨ d = .anonVar := by
  cases d <;> simp [byValueDim]

theorem byValueDtypes_false_none_iff (t : DtypeSpec) : byValueDtypes false t = none ↔ t = .any := by
  cases t <;> simp [byValueDtypes]

end JV
