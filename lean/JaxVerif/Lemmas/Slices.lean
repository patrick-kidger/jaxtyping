/-
The slices the model of `_check_shape` uses (`take` / `drop`), expressed through normalised Python slice
bounds (`sliceSpec`, Model/SourceDsl.lean). Proved once; `Properties/C01.lean` shows on every run that the
plan translated from the source computes exactly these bounds. Core Lean only.
-/
import JaxVerif.Model.SourceDsl

namespace JV

theorem sliceSpec_lists {α β : Type} (dims : List α) (shape : List β) (i : Nat) :
    let v := sliceSpec dims.length shape.length i
    let s := dims.length - i - 1
    sliceNat dims v.prefixDims.1 v.prefixDims.2 = dims.take i ∧
    sliceNat shape v.prefixShape.1 v.prefixShape.2 = shape.take i ∧
    (match v.suffixDims, v.suffixShape with
     | some sd, some ss =>
       sliceNat dims sd.1 sd.2 = dims.drop (i + 1) ∧ sliceNat shape ss.1 ss.2 = shape.drop (shape.length - s)
     | none, none => dims.drop (i + 1) = [] ∧ shape.drop (shape.length - s) = []
     | _, _ => False) ∧
    sliceNat shape v.midBound.1 v.midBound.2 = (shape.drop i).take (shape.length - i - s) ∧
    v.midFirst = v.midBound ∧ v.varIndex = i := by
  intro v s
  refine ⟨rfl, rfl, ?_, ?_, rfl, rfl⟩
  · by_cases hs : dims.length - i - 1 = 0
    · simp only [v, sliceSpec, hs, if_true]
      exact ⟨List.drop_eq_nil_of_le (by omega), List.drop_eq_nil_of_le (by omega)⟩
    · -- a slice up to the end of the list takes all that is left
      simp only [v, sliceSpec, hs, if_false, sliceNat]
      exact ⟨List.take_of_length_le (by rw [List.length_drop]; omega),
        List.take_of_length_le (by rw [List.length_drop]; omega)⟩
  · show (shape.drop i).take (shape.length - s - i) = _
    rw [Nat.sub_right_comm]

end JV
