/-
The two `__instancecheck__`s and what they leave in the context. `__instancecheck_str__`: when it accepts
(`instancecheck_T_iff`; the verdict is satisfiability, `instancecheck_iff`: C01) and the three ways it can end
(`instancecheck_cases`), of which "nothing bound unless accepted" (C04) is a reading. `MemoLe`: the order on contexts in
which accepted checks move; an accepted check is accepted again without effect from every context above the one it
produced (`instancecheck_stable`: C04's idempotence, and the stability C02 and C13 use). `pytreeFinish`: what
`_MetaPyTree.__instancecheck__` does with the outcome of `_check`, and the rollback that follows from it.
Core Lean only.
-/
import JaxVerif.Lemmas.Array
import JaxVerif.Lemmas.DecEq

namespace JV

/-- the canonical total assignment of a context -/
def asgOfMemo (σ : Single) (ν : Variadic) : Asg where
  single := asgOfSingle σ
  var := fun k => ((ν.lookup k).map (·.2)).getD []

theorem asgOfMemo_extends (σ : Single) (ν : Variadic) : Extends (asgOfMemo σ ν) σ ν := by
  refine ⟨asgOfSingle_extends σ, fun k b s hl => ?_⟩
  have : (asgOfMemo σ ν).var k = s := by simp [asgOfMemo, hl]
  rw [this]
  exact ExtV_some_iff.mp (ExtV_self b s)

section
variable {c : Catch} {fl : Bool} {tp : TreePath} {a : Ann} {o : ArrObj} {m m' m'' : Memo}

/-- where the shape walk runs: the verdict and the memo afterwards -/
theorem instancecheck_walk
    (ht : a.transparent = false) (hi : o.isInst = true) (hd : a.dtypes.accepts o.dtype = true) :
    instancecheck c false tp a o m =
      match checkShape tp m.args a.shape o.shape m.single m.variadic with
      | .ok (σ, ν) => (.T, { m with single := σ, variadic := ν })
      | .fail => (.F, m)
      | .annErr => (.ANN, m)
      | .exc e (σ, ν) =>
        if c.covers e then (.EXC e, m) else (.EXC e, { m with single := σ, variadic := ν }) := by
  simp only [instancecheck, ht, hi, hd, Bool.false_eq_true, if_false, Bool.not_true]
  rfl

/-- an array check accepts either because the annotation was made transparent, or after an accepted shape
    walk whose bindings it commits -/
theorem instancecheck_T_iff :
    instancecheck c false tp a o m = (.T, m') ↔
      (a.transparent = true ∧ m' = m) ∨
      (a.transparent = false ∧ o.isInst = true ∧ a.dtypes.accepts o.dtype = true ∧
        ∃ σ ν, checkShape tp m.args a.shape o.shape m.single m.variadic = .ok (σ, ν) ∧
          m' = { m with single := σ, variadic := ν }) := by
  cases ht : a.transparent with
  | true => simp [instancecheck, ht, @eq_comm _ m']
  | false =>
  cases hi : o.isInst with
  | false => simp [instancecheck, ht, hi]
  | true =>
  cases hd : a.dtypes.accepts o.dtype with
  | false => simp [instancecheck, ht, hi, hd]
  | true =>
    rw [instancecheck_walk ht hi hd]
    split
    · next σ ν hc =>
      simp only [hc, Prod.mk.injEq, true_and, false_or, Walk.ok.injEq, reduceCtorEq, false_and]
      exact ⟨fun h => ⟨σ, ν, ⟨rfl, rfl⟩, h.symm⟩, fun ⟨_, _, ⟨h1, h2⟩, h⟩ => h1 ▸ h2 ▸ h.symm⟩
    · next hc => simp [hc]
    · next hc => simp [hc]
    · next hc => split <;> simp [hc]

theorem instancecheck_iff (ht : a.transparent = false)
    (hann : (instancecheck c false tp a o m).1 ≠ .ANN) :
    (instancecheck c false tp a o m).1 = .T ↔
      (o.isInst = true ∧ a.dtypes.accepts o.dtype = true ∧
        ∃ α, Extends α m.single m.variadic ∧ Matches tp m.args α a.shape o.shape) := by
  constructor
  · intro hT
    rcases instancecheck_T_iff.mp (Prod.ext hT rfl) with ⟨ht', _⟩ | ⟨_, hi, hd, σ, ν, hc, _⟩
    · rw [ht] at ht'; cases ht'
    · exact ⟨hi, hd, _, checkShape_sound hc (asgOfMemo_extends σ ν)⟩
  · rintro ⟨hi, hd, α, hα, hm⟩
    rcases checkShape_complete hα hm with ⟨σ', ν', hc, _⟩ | hc
    · exact congrArg Prod.fst (instancecheck_T_iff.mpr (.inr ⟨ht, hi, hd, σ', ν', hc, rfl⟩))
    · rw [instancecheck_walk ht hi hd, hc] at hann
      exact absurd rfl hann

/-- the three ways the check can end: either the memo is handed back untouched, or the shape walk accepted and its
    bindings were committed, or user code raised an exception the handler does not cover -/
theorem instancecheck_cases :
    ((instancecheck c fl tp a o m).2 = m) ∨
    (∃ σ ν, instancecheck c fl tp a o m = (.T, { m with single := σ, variadic := ν }) ∧
      a.transparent = false ∧ o.isInst = true ∧ fl = false ∧ a.dtypes.accepts o.dtype = true ∧
      checkShape tp m.args a.shape o.shape m.single m.variadic = .ok (σ, ν)) ∨
    (∃ e σ ν, instancecheck c fl tp a o m = (.EXC e, { m with single := σ, variadic := ν }) ∧
      c.covers e = false) := by
  cases ht : a.transparent with
  | true => exact .inl (by simp [instancecheck, ht])
  | false =>
  cases hi : o.isInst with
  | false => exact .inl (by simp [instancecheck, ht, hi])
  | true =>
  cases fl with
  | true => exact .inl (by simp [instancecheck, ht, hi])
  | false =>
  cases hd : a.dtypes.accepts o.dtype with
  | false => exact .inl (by simp [instancecheck, ht, hi, hd])
  | true =>
    rw [instancecheck_walk ht hi hd]
    split
    · next σ ν hc => exact .inr (.inl ⟨σ, ν, rfl, rfl, rfl, rfl, rfl, hc⟩)
    · exact .inl rfl
    · exact .inl rfl
    · next e σ ν _ =>
      split
      · exact .inl rfl
      · next hcov => exact .inr (.inr ⟨e, σ, ν, rfl, by simpa using hcov⟩)

theorem instancecheck_fail_restores
    (h : (instancecheck c fl tp a o m).1 = .F ∨ (instancecheck c fl tp a o m).1 = .ANN) :
    (instancecheck c fl tp a o m).2 = m := by
  rcases instancecheck_cases with h0 | ⟨σ, ν, h1, _⟩ | ⟨e, σ, ν, h1, _⟩
  · exact h0
  · rw [h1] at h; exact h.elim nofun nofun
  · rw [h1] at h; exact h.elim nofun nofun

theorem instancecheck_base_restores (h : (instancecheck .baseException fl tp a o m).1 ≠ .T) :
    (instancecheck .baseException fl tp a o m).2 = m := by
  rcases instancecheck_cases with h0 | ⟨σ, ν, h1, _⟩ | ⟨e, σ, ν, _, hcov⟩
  · exact h0
  · rw [h1] at h; exact absurd rfl h
  · cases hcov

/-! ### the order on contexts in which accepted checks move

An accepted check only extends the context (`instancecheck_mono`), and a check accepted once is accepted again,
without effect, from every context that extends the one it produced (`instancecheck_stable`): from that context
itself this is idempotence, from the context after further accepted checks it is what `_get_problem_arg` relies on. -/

structure MemoLe (m m' : Memo) : Prop where
  args : m'.args = m.args
  single : SubSingle m.single m'.single
  variadic : SubVar m.variadic m'.variadic

theorem MemoLe.refl (m : Memo) : MemoLe m m := ⟨rfl, .refl _, .refl _⟩

theorem MemoLe.trans {m₁ m₂ m₃ : Memo} (h1 : MemoLe m₁ m₂) (h2 : MemoLe m₂ m₃) : MemoLe m₁ m₃ :=
  ⟨h2.args.trans h1.args, h1.single.trans h2.single, h1.variadic.trans h2.variadic⟩

theorem instancecheck_mono (h : instancecheck c false tp a o m = (.T, m')) : MemoLe m m' := by
  rcases instancecheck_T_iff.mp h with ⟨_, rfl⟩ | ⟨_, _, _, σ, ν, hc, rfl⟩
  · exact .refl m'
  · exact ⟨rfl, (checkShape_mono hc).1, (checkShape_mono hc).2⟩

theorem instancecheck_stable (h : instancecheck c false tp a o m = (.T, m')) (hle : MemoLe m' m'') :
    instancecheck c false tp a o m'' = (.T, m'') := by
  rcases instancecheck_T_iff.mp h with ⟨ht, _⟩ | ⟨ht, hi, hd, σ, ν, hc, rfl⟩
  · exact instancecheck_T_iff.mpr (.inl ⟨ht, rfl⟩)
  · have := checkShape_stable hc hle.single hle.variadic
    rw [← hle.args] at this
    exact instancecheck_T_iff.mpr (.inr ⟨ht, hi, hd, _, _, this, rfl⟩)

end

/-- what `_MetaPyTree.__instancecheck__` does with the outcome of `_check` -/
def pytreeFinish (sk : Skel) (st : CState) : CState × Verdict → CState × Verdict
  | (st1, .T) => (if st.noCtx then { st1 with memo := st.memo } else st1, .T)
  | (st1, .F) => ({ st1 with memo := st.memo }, .F)
  | (st1, .ANN) => ({ st1 with memo := st.memo }, .ANN)
  | (st1, .EXC e) =>
    if sk.pytreeCatch.covers e || st.noCtx then ({ st1 with memo := st.memo }, .EXC e)
    else (st1, .EXC e)

theorem pytreeInstancecheck_eq {sk : Skel} {leafCheck : Obj → CState → CState × Verdict}
    {leafAny : Bool} {S : Option String} {x : Obj} {st : CState} (hx : x ≠ .none) :
    pytreeInstancecheck sk leafCheck leafAny S x st =
      pytreeFinish sk st
        (pytreeCore sk leafCheck leafAny S x (if st.noCtx then { st with memo := {} } else st)) := by
  unfold pytreeInstancecheck
  split
  · exact absurd rfl hx
  · rfl

theorem pytreeFinish_snd (sk : Skel) (st : CState) (r : CState × Verdict) :
    (pytreeFinish sk st r).2 = r.2 := by
  obtain ⟨st1, v⟩ := r
  cases v with
  | EXC e => rw [pytreeFinish]; split <;> rfl
  | _ => rfl

theorem pytreeFinish_restores {sk : Skel} {st : CState} {r : CState × Verdict}
    (h : match (pytreeFinish sk st r).2 with
         | .T => False | .F => True | .ANN => True | .EXC e => sk.pytreeCatch.covers e = true) :
    (pytreeFinish sk st r).1.memo = st.memo := by
  rw [pytreeFinish_snd] at h
  obtain ⟨st1, v⟩ := r
  cases v with
  | T => exact h.elim
  | F => rfl
  | ANN => rfl
  | EXC e => rw [pytreeFinish, (h : sk.pytreeCatch.covers e = true), Bool.true_or, if_pos rfl]

/-- if `_check` hands the memo of an open context back as it found it, so does `__instancecheck__` -/
theorem pytreeFinish_kept (sk : Skel) {st : CState} {r : CState × Verdict}
    (h : st.noCtx = false → r.1.memo = st.memo) : (pytreeFinish sk st r).1.memo = st.memo := by
  obtain ⟨st1, v⟩ := r
  cases v with
  | T =>
    rw [pytreeFinish]
    cases hc : st.noCtx
    · exact h hc
    · rfl
  | F => rfl
  | ANN => rfl
  | EXC e =>
    rw [pytreeFinish]
    cases hc : (sk.pytreeCatch.covers e || st.noCtx)
    · exact h (Bool.or_eq_false_iff.mp hc).2
    · rfl

/-- inside a context an accepted `_check` is handed through as it is -/
theorem pytreeFinish_T (sk : Skel) {st : CState} {r : CState × Verdict} (hc : st.noCtx = false)
    (h : r.2 = .T) : (pytreeFinish sk st r).1.memo = r.1.memo := by
  obtain ⟨st1, v⟩ := r
  cases h
  rw [pytreeFinish, hc]
  rfl

theorem pytree_fail_restores {sk : Skel} {leafCheck : Obj → CState → CState × Verdict}
    {leafAny : Bool} {S : Option String} {x : Obj} {st : CState}
    (h : match (pytreeInstancecheck sk leafCheck leafAny S x st).2 with
         | .T => False | .F => True | .ANN => True | .EXC e => sk.pytreeCatch.covers e = true) :
    (pytreeInstancecheck sk leafCheck leafAny S x st).1.memo = st.memo := by
  by_cases hx : x = .none
  · subst hx; rfl
  · rw [pytreeInstancecheck_eq hx] at h ⊢
    exact pytreeFinish_restores h

/-! ### `onTop` on each form of stack; `checkL` at array and PyTree types

The check sees the flags and the top frame, `⟨m, tp, fl, false⟩`, or `⟨{}, tp, fl, true⟩` outside every context: what
Lemmas/CallStep calls the `view` of the state, where `onTop_spec` says the same for a stack of either form, projection
by projection. `topState` (Lemmas/Calls) is the state of `onTop_cons` with flatten mode off. -/

theorem onTop_nil (f : CState → CState × Verdict) (tp : TreePath) (fl dis : Bool) :
    onTop ⟨[], tp, fl, dis⟩ f =
      (⟨[], (f ⟨{}, tp, fl, true⟩).1.tp, (f ⟨{}, tp, fl, true⟩).1.flatten, dis⟩, (f ⟨{}, tp, fl, true⟩).2) :=
  rfl

theorem onTop_cons (f : CState → CState × Verdict) (m : Memo) (rest : List Memo) (tp : TreePath)
    (fl dis : Bool) :
    onTop ⟨m :: rest, tp, fl, dis⟩ f =
      (⟨(f ⟨m, tp, fl, false⟩).1.memo :: rest, (f ⟨m, tp, fl, false⟩).1.tp,
          (f ⟨m, tp, fl, false⟩).1.flatten, dis⟩,
        (f ⟨m, tp, fl, false⟩).2) :=
  rfl

/-- in an open context the array check is `instancecheck` on the memo -/
theorem checkL_arr_check (sk : Skel) (cls : String) (a : Ann) (x : Obj) (m : Memo) (tp : TreePath)
    (fl : Bool) :
    checkL sk (.arr cls a) x ⟨m, tp, fl, false⟩ =
      (⟨(instancecheck sk.arrayCatch fl tp a (x.toArr cls) m).2, tp, fl, false⟩,
        (instancecheck sk.arrayCatch fl tp a (x.toArr cls) m).1) :=
  rfl

theorem checkL_pytree_eq (sk : Skel) (l : LType) (s : Option String) (x : Obj) (st : CState) :
    checkL sk (.pytree l s) x st =
      pytreeInstancecheck sk (checkL sk l) (match l with | .any => true | _ => false) s x st :=
  rfl

theorem checkL_restores {sk : Skel} {l : LType} {x : Obj} {c0 : CState}
    (hl : (∃ cls a, l = .arr cls a) ∨ (∃ l' s, l = .pytree l' s))
    (hb : sk.arrayCatch = .baseException ∧ sk.pytreeCatch = .baseException)
    (hn : c0.noCtx = false)
    (h : (checkL sk l x c0).2 ≠ .T) : (checkL sk l x c0).1.memo = c0.memo := by
  rcases hl with ⟨cls, a, rfl⟩ | ⟨l', s, rfl⟩
  · obtain ⟨m, tp, fl, nc⟩ := c0
    cases hn
    rw [checkL_arr_check, hb.1] at h ⊢
    exact instancecheck_base_restores h
  · rw [checkL_pytree_eq] at h ⊢
    apply pytree_fail_restores
    revert h
    generalize (pytreeInstancecheck sk _ _ s x c0).2 = v
    intro h
    cases v with
    | T => exact absurd rfl h
    | F => trivial
    | ANN => trivial
    | EXC e => simp only [hb.2]; rfl

end JV
