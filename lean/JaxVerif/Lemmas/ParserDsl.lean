/-
Lemmas for the translated parser code (Model/ParserDsl.lean). First the means to run a closed piece of code on a
state some of whose fields are variables, by rewriting (`PStmt.runK`); then: a loop body that behaves like one round
of the modifier-stripping loop, iterated, is `stripMods`. Proved once; the obligations about the code the
translator produces on each run (Properties/C14.lean) are then free of recursion. Core Lean only.
-/
import JaxVerif.Model.ParserDsl
import JaxVerif.Lemmas.Parse
import JaxVerif.Lemmas.Attr

namespace JV

/-! ### running code by rewriting

`runK` is `run` in continuation-passing form: what follows a statement is handed to it as a function, which `simp`
looks into only once it is applied to a state. Run on a state some of whose fields are variables, closed code becomes
a decision tree over those variables, each statement being visited once per path. With `run` itself, whose `seq` is
a `match` on the outcome of the first part, `simp` unfolds the whole second part under the binder of that `match`
before the outcome is known, and again afterwards: that, and not the number of cases, is what makes running
translated code by `simp [PStmt.run]` dear.

`POut.elim` and `branchOn` are there for the same reason. They take an outcome / an evaluated condition as an
argument and reduce only when it is a constructor; written as a `match`, both continuations would be simplified under
its binders first. The rules for composite statements and conditions are tried before `runK` and `branch` unfold
(`↓`); the equations of `run` and `eval` are generated here once, not in every proof that names them.

All of this is collected in the simp set `parser_run` (declared in Lemmas/Attr.lean) and kept out of the default one:
code is run by `simp only [parser_run, ↓reduceIte, …]`, the rest of the list being what the state at hand adds.
`↓reduceIte` and not `if_true` / `if_false`: a lemma rewrites an `if` after both its branches have been simplified, the
simproc before, so that the branch not taken is never visited. -/

attribute [parser_run] PStmt.run PCond.eval PSt.flag PSt.setFlag AxKind.same Option.isSome_none Option.isSome_some
  Option.map_none Option.map_some Bool.false_eq_true

section runK
variable {α : Type}

def POut.elim (k : PSt → α) (h : POut → α) : POut → α
  | .ok s => k s
  | o => h o

@[parser_run] theorem POut.elim_ok (k : PSt → α) (h : POut → α) (s : PSt) : POut.elim k h (.ok s) = k s := rfl
@[parser_run] theorem POut.elim_brk (k : PSt → α) (h : POut → α) (s : PSt) : POut.elim k h (.brk s) = h (.brk s) := rfl
@[parser_run] theorem POut.elim_raised (k : PSt → α) (h : POut → α) : POut.elim k h .raised = h .raised := rfl
@[parser_run] theorem POut.elim_crash (k : PSt → α) (h : POut → α) : POut.elim k h .crash = h .crash := rfl

def branchOn : Option Bool → α → (PSt → α) → (PSt → α) → PSt → α
  | none, x, _, _, _ => x
  | some b, _, t, e, s => if b then t s else e s

@[parser_run] theorem branchOn_none (x : α) (t e : PSt → α) (s : PSt) : branchOn none x t e s = x := rfl
@[parser_run] theorem branchOn_some (b : Bool) (x : α) (t e : PSt → α) (s : PSt) :
    branchOn (some b) x t e s = if b then t s else e s := rfl

@[parser_run] def PCond.branch (c : PCond) (x : α) (t e : PSt → α) (s : PSt) : α := branchOn (c.eval s) x t e s

/-! connectives become nested branches: every test in the tree is of one feature of the state -/

@[parser_run ↓] theorem PCond.branch_not (c : PCond) (x : α) (t e : PSt → α) (s : PSt) :
    c.not.branch x t e s = c.branch x e t s := by
  simp only [PCond.branch, PCond.eval]
  rcases c.eval s with _ | _ | _ <;> rfl

@[parser_run ↓] theorem PCond.branch_and (c d : PCond) (x : α) (t e : PSt → α) (s : PSt) :
    (c.and d).branch x t e s = c.branch x (d.branch x t e) e s := by
  simp only [PCond.branch, PCond.eval]
  rcases c.eval s with _ | _ | _ <;> rfl

@[parser_run ↓] theorem PCond.branch_or (c d : PCond) (x : α) (t e : PSt → α) (s : PSt) :
    (c.or d).branch x t e s = c.branch x t (d.branch x t e) s := by
  simp only [PCond.branch, PCond.eval]
  rcases c.eval s with _ | _ | _ <;> rfl

@[parser_run] def PStmt.runK (p : PStmt) (k : POut → α) (s : PSt) : α := k (p.run s)

@[parser_run ↓] theorem PStmt.runK_seq (a b : PStmt) (k : POut → α) (s : PSt) :
    (a.seq b).runK k s = a.runK (POut.elim (b.runK k) k) s := by
  simp only [PStmt.runK, PStmt.run]
  cases a.run s <;> rfl

@[parser_run ↓] theorem PStmt.runK_ite (c : PCond) (t e : PStmt) (k : POut → α) (s : PSt) :
    (PStmt.ite c t e).runK k s = c.branch (k .crash) (t.runK k) (e.runK k) s := by
  simp only [PStmt.runK, PStmt.run, PCond.branch]
  rcases c.eval s with _ | _ | _ <;> rfl

@[parser_run ↓] theorem PStmt.runK_tryInt (a b : PStmt) (k : POut → α) (s : PSt) :
    (PStmt.tryInt a b).runK k s =
      if s.intVal.isSome then k .crash
      else match parseIntLit s.elem with
        | none => a.runK k s
        | some i => b.runK k { s with intVal := some i } := by
  simp only [PStmt.runK, PStmt.run]
  split
  · rfl
  · cases parseIntLit s.elem <;> rfl

theorem PStmt.run_eq_runK (p : PStmt) (s : PSt) : p.run s = p.runK id s := rfl

end runK

/-- the multi-axis bookkeeping of `parseToks` around the outcome of `parseTok` -/
def tokStepOf (r : Option (PDim × Bool)) (idx : Nat) (iv : Option Nat) : TokRes :=
  match r with
  | none => .valueError
  | some (d, isVar) => if isVar && iv.isSome then .valueError else .val d (if isVar then some idx else iv)

theorem tokStep_eq (e : List Char) (idx : Nat) (iv : Option Nat) : tokStep e idx iv = tokStepOf (parseTok e) idx iv := rfl

theorem runTok_eq_runK (body : PStmt) (e : List Char) (idx : Nat) (iv : Option Nat) :
    runTok body e idx iv =
      body.runK (fun o => match o with
        | .ok s => (match s.out with | some d => .val d s.iv | none => .crash)
        | .raised => .valueError
        | _ => .crash) { elem := e, iv := iv, idx := idx } := by
  unfold runTok PStmt.runK
  cases body.run { elem := e, iv := iv, idx := idx } <;> rfl

/-- a state in which the four flags are assigned and `elem` is still a string -/
def mkSt (e : List Char) (m : Mods) (k : Option AxKind) (iv : Option Nat) (idx : Nat) : PSt :=
  { elem := e, intVal := none, b := some m.broadcastable, v := some m.variadic, a := some m.anonymous,
    t := some m.treepath, kind := k, iv := iv, idx := idx, made := none, out := none }

/-- one round of the `while True` loop, as the model sees it -/
def loopSpec (e : List Char) (m : Mods) (k : Option AxKind) (iv : Option Nat) (idx : Nat) : POut :=
  match e with
  | [] => .brk (mkSt [] m k iv idx)
  | c :: r =>
    if isMod c then
      (match setMod c m with
       | none => .raised
       | some m' => .ok (mkSt r m' k iv idx))
    else if countEq (c :: r) == 1 then .ok (mkSt (afterEq (c :: r)) m k iv idx)
    else .brk (mkSt (c :: r) m k iv idx)

/-- the loop, as the model sees it -/
def loopResult (e : List Char) (m : Mods) (k : Option AxKind) (iv : Option Nat) (idx : Nat) : POut :=
  match stripMods (e.length + 1) e m with
  | none => .raised
  | some (base, m') => .ok (mkSt base m' k iv idx)

/-- `parseTok` in the vocabulary of the token features -/
theorem parseTok_feat (elem : List Char) :
    parseTok elem =
      if fComma elem && !fParen elem then none
      else if fEndsHash elem then none
      else if fHasEll elem then
        if !fEqEll elem then none else some (.anonVar, true)
      else axisOfStripped (stripMods (elem.length + 1) elem {}) := by
  rw [parseTok_eq]
  rfl

theorem classify_feat (base : List Char) :
    classify base =
      if fLenZero base || fIsIdent base then .named
      else match parseIntLit base with
        | some k => .fixed k
        | none => .symbolic := rfl

theorem iterP_loopSpec (f : PSt → POut) (k : Option AxKind) (iv : Option Nat) (idx : Nat)
    (hf : ∀ e m, f (mkSt e m k iv idx) = loopSpec e m k iv idx) :
    ∀ (n : Nat) (e : List Char) (m : Mods), e.length + 1 ≤ n →
      iterP f n (mkSt e m k iv idx) = loopResult e m k iv idx := by
  intro n
  induction n with
  | zero => intro e m h; omega
  | succ n ih =>
    intro e m h
    unfold loopResult
    cases e with
    | nil => simp [iterP, hf, loopSpec, stripMods]
    | cons c r =>
      simp only [iterP, hf, loopSpec, List.length_cons]
      simp only [List.length_cons] at h
      cases hc : isMod c with
      | true =>
        rw [stripMods_mod_step hc]
        simp only [if_true]
        cases setMod c m with
        | none => simp
        | some m' =>
          simp only [Option.bind_some]
          rw [ih r m' (by omega)]
          rfl
      | false =>
        rw [stripMods_nonmod_step hc]
        simp only [Bool.false_eq_true, if_false]
        by_cases he : (countEq (c :: r) == 1) = true
        · simp only [he, if_true]
          have hl := afterEq_cons_length_le c r
          rw [ih (afterEq (c :: r)) m (by omega)]
          unfold loopResult
          rw [stripMods_fuel (f₁ := (afterEq (c :: r)).length + 1) (f₂ := r.length + 1) (by omega) (by omega)]
        · simp [he]

/-- code whose per-token behaviour is one step of the model parses whole token lists like the model -/
theorem runToks_eq (body : PStmt) (h : ∀ e idx iv, runTok body e idx iv = tokStep e idx iv) :
    ∀ (ts : List (List Char)) (idx : Nat) (iv : Option Nat),
      runToks body ts idx iv = (parseToks ts idx iv).map some := by
  intro ts
  induction ts with
  | nil => intro idx iv; rfl
  | cons t ts ih =>
    intro idx iv
    simp only [runToks, parseToks, h, tokStep]
    cases parseTok t with
    | none => rfl
    | some p =>
      obtain ⟨d, isVar⟩ := p
      dsimp only
      cases isVar && iv.isSome with
      | true => rfl
      | false =>
        simp only [Bool.false_eq_true, if_false, ih]
        cases parseToks ts _ _ <;> rfl

theorem runSpec_eq (body : PStmt) (h : ∀ e idx iv, runTok body e idx iv = tokStep e idx iv) (s : List Char) :
    runSpec body s = (parseSpec s).map some :=
  runToks_eq body h (splitWs s) 0 none

end JV
