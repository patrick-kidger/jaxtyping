/-
The `call` and `ctx` cases of `runProg` (Model/Call.lean) with the run of the body abstracted into
a function `B` and every intermediate state written as a projection of the step that produced it
(`callStep`, `ctxStep`); `runProg_call_eq` / `runProg_ctx_eq` show that this is the same function.

`callStep_eq` then says what a call is: the bare function, a bind failure, or push, `inside`, pop,
where `inside` is a sequence (`andThen`) of checks run by `onTop` and of the body. What each of
these keeps, be it an invariant of the thread state or a relation between two runs (`InStep`), the
whole of `inside` keeps: `inside_inStep`, `inside_keeps`. Lemmas/Stack.lean and Lemmas/Flags.lean
instantiate this three times.
Core Lean only.
-/
import JaxVerif.Spec.Calls

namespace JV

def pushFrame (m : Memo) (st : TState) : TState := { st with stack := m :: st.stack }

/-- outcome of an old-style call from the verdict of the typechecker's wrapper -/
def oldOutcome : Verdict → CallOutcome
  | .T => .returned | .F => .checkerError | .ANN => .ann | .EXC e => .exc e

/-- the tail of a new-style call after a parameter or return check did not answer True
    (second full pass, `ret` given) -/
def newRetFail (w : WrapSkel) (pre : List Obs) (v : Verdict) (st : TState) : TState × List Obs :=
  match v with
  | .ANN =>
    (popAfter w.newPopInFinally (if w.annErrFirst then CallOutcome.ann else .tceReturn) st,
      pre ++ [.outcome (if w.annErrFirst then CallOutcome.ann else .tceReturn)])
  | .EXC .baseException =>
    (popAfter w.newPopInFinally (.exc .baseException) st, pre ++ [.outcome (.exc .baseException)])
  | _ =>
    (popAfter w.newPopInFinally .tceReturn st, pre ++ [.tceBindings (topMemo st), .outcome .tceReturn])

/-- the tail of a new-style call whose first parameter pass did not answer True -/
def newParamFail (sk : Skel) (w : WrapSkel) (params : List Param) (st : TState) :
    TState × List Obs :=
  match (problemArg sk params st).2 with
  | .inl b => (popAfter w.newPopInFinally (.tceParams b) (problemArg sk params st).1,
      [.tceBindings (topMemo (problemArg sk params st).1), .outcome (.tceParams b)])
  | .inr e => (popAfter w.newPopInFinally (.exc e) (problemArg sk params st).1, [.outcome (.exc e)])

def callStep (sk : Skel) (w : WrapSkel) (k : CallKind) (params : List Param)
    (ret : Option (LType × Obj)) (bindOk noTc : Bool) (B : TState → TState × List Obs)
    (exit : Exit) (st : TState) : TState × List Obs :=
  match k with
  | .noChecker =>
    if !bindOk then
      if w.oldBindBeforePush then (st, [.outcome .bindError])
      else (pushFrame {} st, [.outcome .bindError])
    else
      (popAfter w.oldPopInFinally (exitOutcome exit) (B (pushFrame { args := argsOf params } st)).1,
        [.bodyStart] ++ (B (pushFrame { args := argsOf params } st)).2 ++
          [.outcome (exitOutcome exit)])
  | .oldStyle =>
    if !bindOk then
      if w.oldBindBeforePush then (st, [.outcome .bindError])
      else (pushFrame {} st, [.outcome .bindError])
    else
      match (checkParams sk params (pushFrame { args := argsOf params } st)).2.1 with
      | .T =>
        match exit with
        | .ret =>
          match ret with
          | none =>
            (popAfter w.oldPopInFinally .returned
                (B (checkParams sk params (pushFrame { args := argsOf params } st)).1).1,
              [.bodyStart] ++ (B (checkParams sk params (pushFrame { args := argsOf params } st)).1).2
                ++ [.outcome .returned])
          | some (l, x) =>
            (popAfter w.oldPopInFinally
                (oldOutcome (onTop (B (checkParams sk params
                  (pushFrame { args := argsOf params } st)).1).1 (checkL sk l x)).2)
                (onTop (B (checkParams sk params
                  (pushFrame { args := argsOf params } st)).1).1 (checkL sk l x)).1,
              [.bodyStart] ++ (B (checkParams sk params (pushFrame { args := argsOf params } st)).1).2
                ++ [.outcome (oldOutcome (onTop (B (checkParams sk params
                  (pushFrame { args := argsOf params } st)).1).1 (checkL sk l x)).2)])
        | e =>
          (popAfter w.oldPopInFinally (exitOutcome e)
              (B (checkParams sk params (pushFrame { args := argsOf params } st)).1).1,
            [.bodyStart] ++ (B (checkParams sk params (pushFrame { args := argsOf params } st)).1).2
              ++ [.outcome (exitOutcome e)])
      | v =>
        (popAfter w.oldPopInFinally (oldOutcome v)
            (checkParams sk params (pushFrame { args := argsOf params } st)).1,
          [.outcome (oldOutcome v)])
  | .newStyle =>
    if w.disableTestFirst && (st.disable || noTc) then
      if !bindOk then (st, [.outcome .bindError])
      else ((B st).1, [.bodyStart] ++ (B st).2 ++ [.outcome (exitOutcome exit)])
    else if !bindOk then
      if w.newBindBeforePush then (st, [.outcome .bindError])
      else (pushFrame {} st, [.outcome .bindError])
    else if !w.disableTestFirst && (st.disable || noTc) then
      (popAfter w.newPopInFinally (exitOutcome exit)
          (B (pushFrame { args := argsOf params } st)).1,
        [.bodyStart] ++ (B (pushFrame { args := argsOf params } st)).2 ++
          [.outcome (exitOutcome exit)])
    else
      match (checkParams sk params (pushFrame { args := argsOf params } st)).2.1 with
      | .T =>
        match exit with
        | .ret =>
          match ret with
          | none =>
            (popAfter w.newPopInFinally .returned
                (B (checkParams sk params (pushFrame { args := argsOf params } st)).1).1,
              [.bodyStart] ++ (B (checkParams sk params (pushFrame { args := argsOf params } st)).1).2
                ++ [.outcome .returned])
          | some (l, x) =>
            match (checkParams sk params
                (B (checkParams sk params (pushFrame { args := argsOf params } st)).1).1).2.1 with
            | .T =>
              match (onTop (checkParams sk params
                  (B (checkParams sk params (pushFrame { args := argsOf params } st)).1).1).1
                  (checkL sk l x)).2 with
              | .T =>
                (popAfter w.newPopInFinally .returned
                    (onTop (checkParams sk params
                      (B (checkParams sk params (pushFrame { args := argsOf params } st)).1).1).1
                      (checkL sk l x)).1,
                  [.bodyStart] ++
                    (B (checkParams sk params (pushFrame { args := argsOf params } st)).1).2 ++
                    [.outcome .returned])
              | v =>
                newRetFail w ([.bodyStart] ++
                    (B (checkParams sk params (pushFrame { args := argsOf params } st)).1).2) v
                  (onTop (checkParams sk params
                      (B (checkParams sk params (pushFrame { args := argsOf params } st)).1).1).1
                      (checkL sk l x)).1
            | v =>
              newRetFail w ([.bodyStart] ++
                  (B (checkParams sk params (pushFrame { args := argsOf params } st)).1).2) v
                (checkParams sk params
                  (B (checkParams sk params (pushFrame { args := argsOf params } st)).1).1).1
        | e =>
          (popAfter w.newPopInFinally (exitOutcome e)
              (B (checkParams sk params (pushFrame { args := argsOf params } st)).1).1,
            [.bodyStart] ++ (B (checkParams sk params (pushFrame { args := argsOf params } st)).1).2
              ++ [.outcome (exitOutcome e)])
      | .ANN =>
        if w.annErrFirst then
          (popAfter w.newPopInFinally .ann
            (checkParams sk params (pushFrame { args := argsOf params } st)).1, [.outcome .ann])
        else
          newParamFail sk w params (checkParams sk params (pushFrame { args := argsOf params } st)).1
      | .EXC .baseException =>
        (popAfter w.newPopInFinally (.exc .baseException)
          (checkParams sk params (pushFrame { args := argsOf params } st)).1,
          [.outcome (.exc .baseException)])
      | _ =>
        newParamFail sk w params (checkParams sk params (pushFrame { args := argsOf params } st)).1

def ctxStep (w : WrapSkel) (B : TState → TState × List Obs) (exit : Exit) (st : TState) :
    TState × List Obs :=
  (if w.ctxExitPopsAlways || !isExceptional (exitOutcome exit)
      then popStack (B (pushFrame {} st)).1 else (B (pushFrame {} st)).1,
    (B (pushFrame {} st)).2 ++ [.outcome (exitOutcome exit)])

/-! `runProg` and `runProgs` on each constructor, by `rfl` (`runProg_call_eq`, which compares with
`callStep` branch by branch, starts from `whnf` of its left side instead). The later files rewrite
with these: `rw [runProg]` or `unfold runProg` would first prove the unfolding lemma of the whole
mutual block, at 3.4M heartbeats. -/

section
variable {sk : Skel} {w : WrapSkel} {st : TState}

theorem runProgs_nil : runProgs sk w [] st = (st, []) := rfl

theorem runProgs_cons {p : Prog} {ps : List Prog} :
    runProgs sk w (p :: ps) st =
      ((runProgs sk w ps (runProg sk w p st).1).1,
        (runProg sk w p st).2 ++ (runProgs sk w ps (runProg sk w p st).1).2) := rfl

theorem runProg_check_eq {l : LType} {x : Obj} :
    runProg sk w (.check l x) st =
      ((onTop st (checkL sk l x)).1, [.verdict (onTop st (checkL sk l x)).2]) := rfl

theorem runProg_print_eq : runProg sk w .print st = (st, [.bindings st.stack.head?]) := rfl

theorem runProg_setDisable_eq {b : Bool} :
    runProg sk w (.setDisable b) st = ({ st with disable := b }, []) := rfl

theorem runProg_ctx_eq {body : List Prog} {e : Exit} :
    runProg sk w (.ctx body e) st = ctxStep w (runProgs sk w body) e st := rfl
end

theorem runProg_call_eq (sk : Skel) (w : WrapSkel) (k : CallKind) (ps : List Param)
    (ret : Option (LType × Obj)) (bindOk noTc : Bool) (body : List Prog) (e : Exit) (st : TState) :
    runProg sk w (.call k ps ret bindOk noTc body e) st =
      callStep sk w k ps ret bindOk noTc (runProgs sk w body) e st := by
  conv => lhs; whnf
  cases k
  case noChecker => rfl
  -- Both sides make the same tests in the same order and are compared branch by branch
  -- (`ite_congr`; `split` would simplify the whole goal at every test).
  case oldStyle =>
    unfold callStep pushFrame; dsimp only
    refine ite_congr rfl (fun _ => rfl) fun _ => ?_
    rcases checkParams sk ps _ with ⟨st2, v, n⟩
    cases v with
    | T =>
      cases e with
      | ret => cases ret <;> rfl
      | _ => rfl
    | _ => rfl
  case newStyle =>
    unfold callStep pushFrame; dsimp only
    refine ite_congr rfl (fun _ => rfl) fun _ => ?_
    refine ite_congr rfl (fun _ => rfl) fun _ => ?_
    refine ite_congr rfl (fun _ => rfl) fun _ => ?_
    rcases checkParams sk ps _ with ⟨st2, v, n⟩
    cases v with
    | T =>
      cases e with
      | ret =>
        cases ret with
        | none => rfl
        | some lx =>
          obtain ⟨l, x⟩ := lx
          dsimp only
          rcases checkParams sk ps _ with ⟨st4, v4, n4⟩
          cases v4 with
          | T =>
            dsimp only
            rcases onTop st4 _ with ⟨st5, v5⟩
            cases v5 with
            | EXC e5 => cases e5 <;> rfl
            | _ => rfl
          | EXC e4 => cases e4 <;> rfl
          | _ => rfl
      | _ => rfl
    | F =>
      unfold newParamFail; dsimp only
      rcases problemArg sk ps st2 with ⟨st3, b | e3⟩ <;> rfl
    | ANN =>
      unfold newParamFail; dsimp only
      split
      · rfl
      · rcases problemArg sk ps st2 with ⟨st3, b | e3⟩ <;> rfl
    | EXC e1 =>
      cases e1 with
      | baseException => rfl
      | exception =>
        unfold newParamFail; dsimp only
        rcases problemArg sk ps st2 with ⟨st3, b | e3⟩ <;> rfl

def WrapSkel.popInFinally (w : WrapSkel) : CallKind → Bool
  | .newStyle => w.newPopInFinally
  | _ => w.oldPopInFinally

def WrapSkel.bindBeforePush (w : WrapSkel) : CallKind → Bool
  | .newStyle => w.newBindBeforePush
  | _ => w.oldBindBeforePush

/-- `newRetFail` up to the pop: the state, the outcome, the observations -/
def retFail (w : WrapSkel) (pre : List Obs) (v : Verdict) (s : TState) :
    TState × CallOutcome × List Obs :=
  match v with
  | .ANN => (s, if w.annErrFirst then .ann else .tceReturn,
      pre ++ [.outcome (if w.annErrFirst then CallOutcome.ann else .tceReturn)])
  | .EXC .baseException => (s, .exc .baseException, pre ++ [.outcome (.exc .baseException)])
  | _ => (s, .tceReturn, pre ++ [.tceBindings (topMemo s), .outcome .tceReturn])

/-- Run `f`, then `g` on its answer, from the state `f` leaves. `inside` is written with it, each
    `match` on an answer yielding the rest of the run as a function of the state: a relation
    between two runs is then carried through step by step (`InStep.andThen`), and at each `match`
    the goal speaks of one function, not of two runs. -/
def andThen {α β : Type} (f : TState → TState × α) (g : α → TState → TState × β) (s : TState) :
    TState × β :=
  g (f s).2 (f s).1

/-- `newParamFail` up to the pop -/
def paramFail (sk : Skel) (ps : List Param) : TState → TState × CallOutcome × List Obs :=
  andThen (problemArg sk ps) fun
    | .inl b => fun s => (s, .tceParams b, [.tceBindings (topMemo s), .outcome (.tceParams b)])
    | .inr e => fun s => (s, .exc e, [.outcome (.exc e)])

/-- A call between `push_shape_memo` and `pop_shape_memo`: the state the pop will find, the
    outcome, the observations. Of `k` only new-style or not matters; a call that checks nothing
    is one without annotations. Every state on the way comes from the one before by
    `onTop _ (checkL ..)` or by the body `B`. -/
def inside (sk : Skel) (w : WrapSkel) (k : CallKind) (ps : List Param) (ret : Option (LType × Obj))
    (B : TState → TState × List Obs) (e : Exit) : TState → TState × CallOutcome × List Obs :=
  andThen (checkParams sk ps) fun
    | (.T, _) => andThen B fun obs =>
      match e, ret with
      | .ret, some (l, x) =>
        match k with
        | .newStyle => andThen (checkParams sk ps) fun
          | (.T, _) => andThen (fun s => onTop s (checkL sk l x)) fun
            | .T => fun s => (s, .returned, [.bodyStart] ++ obs ++ [.outcome .returned])
            | v => retFail w ([.bodyStart] ++ obs) v
          | (v, _) => retFail w ([.bodyStart] ++ obs) v
        | _ => andThen (fun s => onTop s (checkL sk l x)) fun v s =>
          (s, oldOutcome v, [.bodyStart] ++ obs ++ [.outcome (oldOutcome v)])
      | _, _ => fun s => (s, exitOutcome e, [.bodyStart] ++ obs ++ [.outcome (exitOutcome e)])
    | (v, _) =>
      match k with
      | .newStyle =>
        match v with
        | .ANN => if w.annErrFirst then fun s => (s, .ann, [.outcome .ann]) else paramFail sk ps
        | .EXC .baseException => fun s => (s, .exc .baseException, [.outcome (.exc .baseException)])
        | _ => paramFail sk ps
      | _ => fun s => (s, oldOutcome v, [.outcome (oldOutcome v)])

def leave (inFinally : Bool) (r : TState × CallOutcome × List Obs) : TState × List Obs :=
  (popAfter inFinally r.2.1 r.1, r.2.2)

section
variable {sk : Skel} {w : WrapSkel} {k : CallKind} {ps : List Param} {ret : Option (LType × Obj)}
  {bindOk noTc : Bool} {B : TState → TState × List Obs} {e : Exit} {st : TState}

theorem newRetFail_eq {pre : List Obs} {v : Verdict} :
    newRetFail w pre v st = leave w.newPopInFinally (retFail w pre v st) := by
  unfold newRetFail retFail
  split <;> rfl

theorem newParamFail_eq :
    newParamFail sk w ps st = leave w.newPopInFinally (paramFail sk ps st) := by
  unfold newParamFail paramFail andThen
  rcases problemArg sk ps st with ⟨s1, b | x⟩ <;> rfl

/-- A call is the bare function (new-style, checks found disabled before anything else), or it
    fails to bind, or it pushes a frame, runs `inside` it and pops. -/
theorem callStep_eq :
    callStep sk w k ps ret bindOk noTc B e st =
      if k = .newStyle ∧ (w.disableTestFirst && (st.disable || noTc)) = true then
        if bindOk = true then ((B st).1, [.bodyStart] ++ (B st).2 ++ [.outcome (exitOutcome e)])
        else (st, [.outcome .bindError])
      else if bindOk = true then
        leave (w.popInFinally k) (inside sk w k
          (if k = .noChecker ∨ k = .newStyle ∧ (st.disable || noTc) = true then [] else ps)
          (if k = .noChecker ∨ k = .newStyle ∧ (st.disable || noTc) = true then none else ret)
          B e (pushFrame { args := argsOf ps } st))
      else if w.bindBeforePush k = true then (st, [.outcome .bindError])
      else (pushFrame {} st, [.outcome .bindError]) := by
  unfold callStep
  cases k with
  | noChecker =>
    cases bindOk
    · rfl
    · cases e <;> rfl
  | oldStyle =>
    cases bindOk
    · rfl
    have hc : ¬(CallKind.oldStyle = .noChecker ∨
        CallKind.oldStyle = .newStyle ∧ (st.disable || noTc) = true) :=
      fun h => h.elim nofun (fun h => nomatch h.1)
    rw [if_neg hc, if_neg hc]
    unfold inside andThen
    rcases checkParams sk ps _ with ⟨s1, v, n⟩
    cases v with
    | T =>
      cases e with
      | ret =>
        cases ret with
        | none => rfl
        | some lx => rfl
      | _ => rfl
    | _ => rfl
  | newStyle =>
    cases hb : (w.disableTestFirst && (st.disable || noTc))
    case true => cases bindOk <;> rfl
    cases bindOk
    · rfl
    cases hd : (st.disable || noTc)
    · simp only [Bool.false_eq_true, Bool.not_true, Bool.and_false, and_false, reduceCtorEq,
        false_or, ↓reduceIte]
      unfold inside andThen
      rcases checkParams sk ps _ with ⟨s1, v, n⟩
      cases v with
      | T =>
        cases e with
        | ret =>
          cases ret with
          | none => rfl
          | some lx =>
            obtain ⟨l, x⟩ := lx
            dsimp only
            rcases checkParams sk ps _ with ⟨s3, v3, n3⟩
            cases v3 with
            | T =>
              dsimp only
              rcases onTop s3 _ with ⟨s4, v4⟩
              cases v4 with
              | T => rfl
              | _ => exact newRetFail_eq
            | _ => exact newRetFail_eq
        | _ => rfl
      | ANN =>
        cases w.annErrFirst
        · exact newParamFail_eq
        · rfl
      | EXC x =>
        cases x
        · exact newParamFail_eq
        · rfl
      | F => exact newParamFail_eq
    · rw [hd, Bool.and_true] at hb
      rw [hb]
      cases e <;> rfl
end

/-- the per-thread state a check run by `onTop` starts from -/
def TState.view (st : TState) : CState :=
  ⟨st.stack.head?.getD {}, st.tp, st.flatten, st.stack.head?.isNone⟩

/-- `onTop` shows the check the flags and the top frame, and writes back just these -/
structure OnTopSpec (st : TState) (f : CState → CState × Verdict) : Prop where
  verdict : (onTop st f).2 = (f st.view).2
  tp : (onTop st f).1.tp = (f st.view).1.tp
  flatten : (onTop st f).1.flatten = (f st.view).1.flatten
  disable : (onTop st f).1.disable = st.disable
  head : (onTop st f).1.stack.head? = st.stack.head?.map fun _ => (f st.view).1.memo
  length : (onTop st f).1.stack.length = st.stack.length
  below : (onTop st f).1.stack.drop 1 = st.stack.drop 1

theorem onTop_spec (st : TState) (f : CState → CState × Verdict) : OnTopSpec st f := by
  obtain ⟨stack, tp, fl, d⟩ := st
  cases stack <;> exact ⟨rfl, rfl, rfl, rfl, rfl, rfl, rfl⟩

/-- two runs of `f` from `R`-related states observe the same and end in `R'`-related states -/
def InStep {α : Type} (R R' : TState → TState → Prop) (f : TState → TState × α) : Prop :=
  ∀ a b, R a b → (f b).2 = (f a).2 ∧ R' (f a).1 (f b).1

/-- the form in which a proof that walks through both runs uses it -/
theorem InStep.elim {α : Type} {R R' : TState → TState → Prop} {f : TState → TState × α}
    (hf : InStep R R' f) {a b : TState} (h : R a b) :
    ∃ a' b' x, f a = (a', x) ∧ f b = (b', x) ∧ R' a' b' :=
  ⟨(f a).1, (f b).1, (f a).2, rfl, by rw [← (hf a b h).1], (hf a b h).2⟩

theorem InStep.pure {α : Type} {R : TState → TState → Prop} (x : α) : InStep R R (fun s => (s, x)) :=
  fun _ _ h => ⟨rfl, h⟩

theorem InStep.andThen {α β : Type} {R R' R'' : TState → TState → Prop} {f : TState → TState × α}
    {g : α → TState → TState × β} (hf : InStep R R' f) (hg : ∀ x, InStep R' R'' (g x)) :
    InStep R R'' (andThen f g) := by
  intro a b h
  unfold JV.andThen  -- (the bare name is this theorem)
  rw [(hf a b h).1]
  exact hg _ _ _ (hf a b h).2

/-- an invariant is a relation on the diagonal -/
theorem InStep.diag {α : Type} {P : TState → Prop} {f : TState → TState × α}
    (h : ∀ s, P s → P (f s).1) : InStep (fun a b => a = b ∧ P a) (fun a b => a = b ∧ P a) f :=
  fun a _ ⟨e, hp⟩ => e ▸ ⟨rfl, rfl, h a hp⟩

section
variable {sk : Skel} {R : TState → TState → Prop}

theorem retFail_inStep (hM : ∀ a b, R a b → topMemo b = topMemo a) (w : WrapSkel) (pre : List Obs)
    (v : Verdict) : InStep R R (retFail w pre v) := by
  intro a b h
  unfold retFail
  rw [hM a b h]
  split <;> exact ⟨rfl, h⟩

variable (hT : ∀ l x, InStep R R (fun s => onTop s (checkL sk l x)))
include hT

theorem checkParams_inStep (ps : List Param) : InStep R R (checkParams sk ps) := by
  induction ps with
  | nil => exact .pure _
  | cons p ps ih =>
    intro a b h
    obtain ⟨a1, b1, v, ea, eb, h1⟩ := (hT p.ty p.val).elim h
    rw [checkParams, checkParams, ea, eb]
    cases v with
    | T => exact ih a1 b1 h1
    | _ => exact ⟨rfl, h1⟩

theorem problemArg_inStep (ps : List Param) : InStep R R (problemArg sk ps) := by
  induction ps with
  | nil => exact .pure _
  | cons p ps ih =>
    intro a b h
    obtain ⟨a1, b1, v, ea, eb, h1⟩ := (hT p.ty p.val).elim h
    rw [problemArg, problemArg, ea, eb]
    cases v with
    | T => exact ih a1 b1 h1
    | EXC e => cases e <;> exact ⟨rfl, h1⟩
    | _ => exact ⟨rfl, h1⟩

variable (hM : ∀ a b, R a b → topMemo b = topMemo a)
include hM

theorem paramFail_inStep (ps : List Param) : InStep R R (paramFail sk ps) := by
  refine (problemArg_inStep hT ps).andThen fun r => ?_
  split
  · exact fun a b h => ⟨by dsimp only; rw [hM a b h], h⟩
  · exact .pure _

/-- What the checks and the body keep in step, the whole of `inside` keeps in step. -/
theorem inside_inStep {w : WrapSkel} {k : CallKind} {ps : List Param} {ret : Option (LType × Obj)}
    {B : TState → TState × List Obs} {e : Exit} (hB : InStep R R B) :
    InStep R R (inside sk w k ps ret B e) := by
  have hP := checkParams_inStep hT ps
  have hR := retFail_inStep hM w
  have hF := paramFail_inStep hT hM ps
  unfold inside
  refine hP.andThen fun x => ?_
  split
  -- the parameters are accepted: the body, then the return value if there is one to check
  · refine hB.andThen fun obs => ?_
    split
    · split
      -- new-style: the parameters again, then the value
      · refine hP.andThen fun x => ?_
        split
        · refine (hT _ _).andThen fun v => ?_
          split
          · exact .pure _
          · exact hR _ _
        · exact hR _ _
      · exact (hT _ _).andThen fun v => .pure _
    · exact .pure _
  -- they are not: new-style by the verdict, old-style the typechecker's own error
  · split
    · split
      · split
        · exact .pure _
        · exact hF
      · exact .pure _
      · exact hF
    · exact .pure _
end

theorem inside_keeps {sk : Skel} {w : WrapSkel} {k : CallKind} {ps : List Param}
    {ret : Option (LType × Obj)} {B : TState → TState × List Obs} {e : Exit} {P : TState → Prop}
    (hT : ∀ l x s, P s → P (onTop s (checkL sk l x)).1) (hB : ∀ s, P s → P (B s).1) {s : TState}
    (h : P s) : P (inside sk w k ps ret B e s).1 :=
  (inside_inStep (fun l x => InStep.diag (hT l x)) (fun _ _ h => h.1 ▸ rfl) (InStep.diag hB)
    s s ⟨rfl, h⟩).2.2

end JV
