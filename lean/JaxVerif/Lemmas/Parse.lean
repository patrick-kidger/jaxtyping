/-
The dim-string parser model (`JaxVerif.Model.Parse`). What the modifier-stripping loop does with a run of modifier
characters (`stripMods_mods`: the flags of the run whatever its order, `none` when a character repeats), and `parseTok`
with it (`parseTok_mods`); a prefix that a test of the token does not look at (`ignores_prefix`, `parseTok_append`);
`splitWs` on leading, trailing and separating whitespace; the token loop from any position (`parseToks_eq`) and over
concatenated strings (`parseSpec_concat_eq`). Core Lean only.
-/
import JaxVerif.Spec.Parse
namespace JV

theorem isMod_iff (c : Char) : isMod c = true ↔ c = '#' ∨ c = '*' ∨ c = '_' ∨ c = '?' := by
  simp [isMod, or_assoc]

def setMod (c : Char) (m : Mods) : Option Mods :=
  if c == '#' then (if m.broadcastable then none else some { m with broadcastable := true })
  else if c == '*' then (if m.variadic then none else some { m with variadic := true })
  else if c == '_' then (if m.anonymous then none else some { m with anonymous := true })
  else if c == '?' then (if m.treepath then none else some { m with treepath := true })
  else none

theorem stripMods_mod_step {f : Nat} {c : Char} {rest : List Char} {m : Mods} (hc : isMod c = true) :
    stripMods (f + 1) (c :: rest) m = (setMod c m).bind (fun m' => stripMods f rest m') := by
  -- on a concrete character and a concrete value of its flag both sides compute
  obtain ⟨mb, mv, ma, mt⟩ := m
  rcases (isMod_iff c).mp hc with rfl | rfl | rfl | rfl
  · cases mb <;> rfl
  · cases mv <;> rfl
  · cases ma <;> rfl
  · cases mt <;> rfl

theorem stripMods_nonmod_step {f : Nat} {c : Char} {rest : List Char} {m : Mods} (hc : isMod c = false) :
    stripMods (f + 1) (c :: rest) m =
      if countEq (c :: rest) == 1 then stripMods f (afterEq (c :: rest)) m else some (c :: rest, m) := by
  simp [isMod] at hc
  simp [stripMods, hc]

theorem afterEq_cons_length_le (c : Char) (cs : List Char) : (afterEq (c :: cs)).length ≤ cs.length := by
  induction cs generalizing c with
  | nil => simp [afterEq]
  | cons d ds ih =>
    rw [afterEq]
    split
    · exact Nat.le_refl _
    · exact Nat.le_succ_of_le (ih d)

theorem stripMods_fuel {f₁ f₂ : Nat} {elem : List Char} {m : Mods} (h₁ : elem.length < f₁)
    (h₂ : elem.length < f₂) : stripMods f₁ elem m = stripMods f₂ elem m := by
  induction f₁ generalizing f₂ elem m with
  | zero => omega
  | succ f₁ ih =>
    cases f₂ with
    | zero => omega
    | succ f₂ =>
      cases elem with
      | nil => simp [stripMods]
      | cons c rest =>
        simp only [List.length_cons] at h₁ h₂
        cases hc : isMod c with
        | true =>
          rw [stripMods_mod_step hc, stripMods_mod_step hc]
          cases setMod c m with
          | none => rfl
          | some m' => exact ih (by omega) (by omega)
        | false =>
          rw [stripMods_nonmod_step hc, stripMods_nonmod_step hc]
          have := afterEq_cons_length_le c rest
          split
          · exact ih (by omega) (by omega)
          · rfl

/-! ### a modifier prefix: accepted exactly when no modifier repeats, whatever the order -/

theorem setMod_modsOf {c : Char} (l : List Char) (hc : isMod c = true) :
    setMod c (modsOf l) = if c ∈ l then none else some (modsOf (l ++ [c])) := by
  rcases (isMod_iff c).mp hc with rfl | rfl | rfl | rfl <;> simp [setMod, modsOf]

/-- the loop on a run `ms` of modifier characters, the flags seen so far being those of `l` -/
theorem stripMods_mods (ms rest : List Char) {l : List Char} (k : Nat) (hm : ∀ c ∈ ms, isMod c = true)
    (hl : l.Nodup) :
    stripMods (ms.length + k) (ms ++ rest) (modsOf l) =
      if (l ++ ms).Nodup then stripMods k rest (modsOf (l ++ ms)) else none := by
  induction ms generalizing l with
  | nil => simp [hl]
  | cons c cs ih =>
    obtain ⟨hc, hcs⟩ := List.forall_mem_cons.mp hm
    rw [List.length_cons, Nat.add_right_comm, List.cons_append, stripMods_mod_step hc, setMod_modsOf l hc]
    by_cases hcl : c ∈ l
    · rw [if_pos hcl, if_neg fun h => (List.nodup_append.mp h).2.2 c hcl c List.mem_cons_self rfl]
      rfl
    · have hl' : (l ++ [c]).Nodup := by simpa [List.nodup_append, hl] using fun a ha (e : a = c) => hcl (e ▸ ha)
      rw [if_neg hcl, Option.bind_some, ih hcs hl', List.append_assoc, List.singleton_append]

theorem stripMods_prefix {ms : List Char} (rest : List Char) (hm : ∀ c ∈ ms, isMod c = true) :
    stripMods ((ms ++ rest).length + 1) (ms ++ rest) {} =
      if ms.Nodup then stripMods (rest.length + 1) rest (modsOf ms) else none := by
  rw [List.length_append, Nat.add_assoc]
  exact stripMods_mods ms rest (rest.length + 1) hm List.nodup_nil

theorem modsOf_perm {ms₁ ms₂ : List Char} (hp : ms₁.Perm ms₂) : modsOf ms₁ = modsOf ms₂ := by
  simp [modsOf, hp.mem_iff]

theorem ignores_prefix {α β : Type} {f : List α → β} {p : α → Prop} (hf : ∀ c l, p c → f (c :: l) = f l)
    {pre : List α} (rest : List α) (h : ∀ c ∈ pre, p c) : f (pre ++ rest) = f rest := by
  induction pre with
  | nil => rfl
  | cons c cs ih =>
    obtain ⟨hc, hcs⟩ := List.forall_mem_cons.mp h
    exact (hf c _ hc).trans (ih hcs)

theorem not_mem_of_all {p : Char → Bool} {l : List Char} (h : ∀ c ∈ l, p c = true) {d : Char} (hd : p d = false) :
    d ∉ l :=
  fun hm => Bool.false_ne_true (hd.symm.trans (h d hm))

theorem contains_append_of_not_mem {pre : List Char} {d : Char} (h : d ∉ pre) (rest : List Char) :
    (pre ++ rest).contains d = rest.contains d := by
  rw [List.contains_append, List.contains_eq_mem, decide_eq_false h, Bool.false_or]

theorem hasSub_dots_cons (c : Char) (l : List Char) (hc : c ≠ '.') :
    hasSub ['.', '.', '.'] (c :: l) = hasSub ['.', '.', '.'] l := by
  have : ('.' == c) = false := by simpa using hc.symm
  simp [hasSub, List.isPrefixOf, this]

theorem hasSub_dots_append {pre : List Char} (h : '.' ∉ pre) (rest : List Char) :
    hasSub ['.', '.', '.'] (pre ++ rest) = hasSub ['.', '.', '.'] rest :=
  ignores_prefix hasSub_dots_cons rest (List.forall_mem_ne'.mpr h)

theorem afterEq_append {l : List Char} (h : '=' ∉ l) (rest : List Char) : afterEq (l ++ '=' :: rest) = rest :=
  ignores_prefix (f := afterEq) (fun c l (hc : c ≠ '=') => if_neg (by simpa using hc)) _ (List.forall_mem_ne'.mpr h)

theorem countEq_eq_count (l : List Char) : countEq l = l.count '=' :=
  List.countP_eq_length_filter.symm

/-- what `parseTok` does with the outcome of the stripping loop -/
def axisOfStripped : Option (List Char × Mods) → Option (PDim × Bool)
  | none => none
  | some (base, m) =>
    match classify base with
    | .fixed k =>
      if m.variadic || m.anonymous || m.treepath then none
      else some (.fixed k m.broadcastable, false)
    | .named =>
      if m.anonymous then
        if m.broadcastable then none
        else if m.variadic then some (.anonVar, true) else some (.anon, false)
      else if m.variadic then some (.namedVar base m.broadcastable m.treepath, true)
      else some (.named base m.broadcastable m.treepath, false)
    | .symbolic =>
      if m.anonymous || m.variadic || m.treepath then none
      else some (.sym base m.broadcastable, false)

theorem parseTok_eq (elem : List Char) :
    parseTok elem =
      if elem.contains ',' && !elem.contains '(' then none
      else if elem.getLast? == some '#' then none
      else if hasSub ['.', '.', '.'] elem then
        if elem != ['.', '.', '.'] then none else some (.anonVar, true)
      else axisOfStripped (stripMods (elem.length + 1) elem {}) := by
  unfold parseTok axisOfStripped
  rfl

/-- a prefix without `,`, `(` and `.` leaves the comma and `...` tests to the rest of the token -/
theorem parseTok_append {pre : List Char} (rest : List Char) (h₁ : ',' ∉ pre) (h₂ : '(' ∉ pre) (h₃ : '.' ∉ pre) :
    parseTok (pre ++ rest) =
      if rest.contains ',' && !rest.contains '(' then none
      else if (pre ++ rest).getLast? == some '#' then none
      else if hasSub ['.', '.', '.'] rest then
        if pre ++ rest != ['.', '.', '.'] then none else some (.anonVar, true)
      else axisOfStripped (stripMods ((pre ++ rest).length + 1) (pre ++ rest) {}) := by
  rw [parseTok_eq, contains_append_of_not_mem h₁, contains_append_of_not_mem h₂, hasSub_dots_append h₃]

/-- in front of `rest`, a non-empty run of modifiers rules out `...` itself and is consumed by the loop as a
    whole -/
theorem parseTok_mods {ms : List Char} (rest : List Char) (hm : ∀ c ∈ ms, isMod c = true) (hne : ms ≠ []) :
    parseTok (ms ++ rest) =
      if rest.contains ',' && !rest.contains '(' then none
      else if (ms ++ rest).getLast? == some '#' then none
      else if hasSub ['.', '.', '.'] rest then none
      else axisOfStripped (if ms.Nodup then stripMods (rest.length + 1) rest (modsOf ms) else none) := by
  have hdot : '.' ∉ ms := not_mem_of_all hm rfl
  have hd : ((ms ++ rest) != ['.', '.', '.']) = true := by
    cases ms with
    | nil => exact absurd rfl hne
    | cons c cs =>
      have : c ≠ '.' := fun e => hdot (e ▸ List.mem_cons_self)
      simp [this]
  rw [parseTok_append rest (not_mem_of_all hm rfl) (not_mem_of_all hm rfl) hdot, hd, stripMods_prefix _ hm]
  rfl

theorem parseTok_mods_none {ms rest : List Char} (hm : ∀ c ∈ ms, isMod c = true) (hne : ms ≠ [])
    (h : axisOfStripped (if ms.Nodup then stripMods (rest.length + 1) rest (modsOf ms) else none) = none) :
    parseTok (ms ++ rest) = none := by
  rw [parseTok_mods _ hm hne, h]
  simp only [ite_self]

theorem ident_chars {name : List Char} (hn : isIdentifier name = true) :
    ∀ d ∈ name, (isAlpha d || isDigit d || d == '_') = true := by
  cases name with
  | nil => simp [isIdentifier] at hn
  | cons a as =>
    simp only [isIdentifier, Bool.and_eq_true, List.all_eq_true] at hn
    intro d hd
    rcases List.mem_cons.mp hd with rfl | hd
    · rcases Bool.or_eq_true _ _ |>.mp hn.1 with h | h <;> simp [h]
    · exact hn.2 d hd

theorem isMod_of_isAlpha {a : Char} (h : isAlpha a = true) : isMod a = false := by
  cases hm : isMod a with
  | false => rfl
  | true => rcases (isMod_iff a).mp hm with rfl | rfl | rfl | rfl <;> (revert h; decide)

/-- a whitespace character ends the pending token and splits the text in two -/
theorem splitWsAux_sep (s₂ s₁ cur : List Char) {c : Char} (hc : isWs c = true) :
    splitWsAux (s₂ ++ c :: s₁) cur = splitWsAux s₂ cur ++ splitWs s₁ := by
  induction s₂ generalizing cur with
  | nil =>
    simp only [List.nil_append, splitWsAux, hc, if_true, splitWs]
    cases cur <;> simp
  | cons d ds ih =>
    simp only [List.cons_append, splitWsAux]
    split
    · split <;> simp [ih]
    · exact ih _

theorem splitWs_sep (s₂ s₁ : List Char) {c : Char} (hc : isWs c = true) :
    splitWs (s₂ ++ c :: s₁) = splitWs s₂ ++ splitWs s₁ :=
  splitWsAux_sep s₂ s₁ [] hc

theorem splitWs_ws {w : List Char} (hw : AllWs w) (s : List Char) : splitWs (w ++ s) = splitWs s :=
  ignores_prefix (fun _ s hc => splitWs_sep [] s hc) s hw

theorem splitWs_append_ws (s : List Char) {w : List Char} (hw : AllWs w) : splitWs (s ++ w) = splitWs s := by
  cases w with
  | nil => rw [List.append_nil]
  | cons c w' =>
    obtain ⟨hc, hw'⟩ := List.forall_mem_cons.mp hw
    have : splitWs w' = [] := List.append_nil w' ▸ splitWs_ws hw' []
    rw [splitWs_sep _ _ hc, this, List.append_nil]

/-- a text without whitespace, and what of the token is pending, are one token -/
theorem splitWsAux_token {tok : List Char} (ht : ∀ c ∈ tok, isWs c = false) (cur : List Char)
    (hne : cur.reverse ++ tok ≠ []) : splitWsAux tok cur = [cur.reverse ++ tok] := by
  induction tok generalizing cur with
  | nil =>
    have : cur ≠ [] := by simpa using hne
    simp [splitWsAux, this]
  | cons c cs ih =>
    obtain ⟨hc, hcs⟩ := List.forall_mem_cons.mp ht
    have e : (c :: cur).reverse ++ cs = cur.reverse ++ c :: cs := by simp
    simp only [splitWsAux, hc, Bool.false_eq_true, if_false]
    rw [ih hcs (c :: cur) (e ▸ hne), e]

theorem splitWs_token {tok : List Char} (h : IsToken tok) : splitWs tok = [tok] :=
  splitWsAux_token h.2 [] h.1

theorem renderSpec_cons (c : Char) (w : List Char) (items : List (List Char × List Char)) :
    renderSpec (c :: w) items = c :: renderSpec w items := by
  cases items with
  | nil => rfl
  | cons it rest => obtain ⟨t, ws⟩ := it; simp [renderSpec]

theorem parseToks_length {ts : List (List Char)} {idx : Nat} {iv : Option Nat} {ds : List PDim}
    {iv' : Option Nat} (h : parseToks ts idx iv = some (ds, iv')) : ds.length = ts.length := by
  -- the cases of the definition: no token; the token rejected; a second multi-axis specifier; the rest rejected; accepted
  fun_induction parseToks ts idx iv generalizing ds with
  | case1 => cases h; rfl
  | case2 | case3 | case4 => cases h
  | case5 t ts idx iv d isVar _ _ ds' _ hr ih => cases h; exact congrArg (· + 1) (ih hr)

theorem parseToks_append (a b : List (List Char)) (idx : Nat) (iv : Option Nat) :
    parseToks (a ++ b) idx iv =
      match parseToks a idx iv with
      | none => none
      | some (da, iva) =>
        match parseToks b (idx + a.length) iva with
        | none => none
        | some (db, ivb) => some (da ++ db, ivb) := by
  induction a generalizing idx iv with
  | nil =>
    simp only [List.nil_append, parseToks, List.length_nil, Nat.add_zero]
    cases parseToks b idx iv <;> rfl
  | cons t ts ih =>
    have hl : idx + 1 + ts.length = idx + (t :: ts).length := by simp; omega
    simp only [List.cons_append, parseToks, ih, hl]
    cases parseTok t with
    | none => rfl
    | some p =>
      simp only
      split
      · rfl
      · cases parseToks ts _ _ with
        | none => rfl
        | some q => simp only; cases parseToks b _ _ <;> rfl

/-- a token list parsed at position `idx`, a multi-axis specifier having been seen before or not (`iv`), in terms
    of the same list parsed on its own: the position only shifts its multi-axis index, and `iv` is kept, or
    clashes with a specifier in the list -/
theorem parseToks_eq (ts : List (List Char)) (idx : Nat) (iv : Option Nat) :
    parseToks ts idx iv =
      match parseToks ts 0 none with
      | none => none
      | some (ds, none) => some (ds, iv)
      | some (ds, some i) => if iv.isSome then none else some (ds, some (i + idx)) := by
  induction ts generalizing idx iv with
  | nil => rfl
  | cons t ts ih =>
    simp only [parseToks]
    cases parseTok t with
    | none => rfl
    | some p =>
      obtain ⟨d, isVar⟩ := p
      simp only [ih (idx + 1), ih 1]
      cases parseToks ts 0 none with
      | none => cases isVar <;> cases iv <;> rfl
      | some q =>
        -- by cases: a specifier in the tail or not, the head one or not, one seen before or not. Both sides compute,
        -- but for the position of a sole specifier
        obtain ⟨ds, _ | i⟩ := q
        · cases isVar
          · cases iv <;> rfl
          · cases iv
            · -- the head is the only one: at `idx` on the left, `0` shifted by `idx` on the right
              exact congrArg (fun j => some (d :: ds, some j)) (Nat.zero_add idx).symm
            · rfl
        · cases isVar
          · cases iv
            · -- the only one is at `i` in the tail: the head shifts it once more
              exact congrArg (fun j => some (d :: ds, some j)) (Nat.add_right_comm i 1 idx).symm
            · rfl
          · cases iv <;> rfl

theorem parseToks_some {ts : List (List Char)} {idx j : Nat} {ds : List PDim} {iv' : Option Nat}
    (h : parseToks ts idx (some j) = some (ds, iv')) : iv' = some j := by
  rw [parseToks_eq] at h
  split at h
  · cases h
  · cases h; rfl
  · cases h

/-- **concatenation**, in full: the outer string followed by the inner one parses to the concatenated axes with
    the inner multi-axis index shifted; it is an error exactly when one of the two is, or both have a multi-axis
    specifier -/
theorem parseSpec_concat_eq (s₁ s₂ : List Char) :
    parseSpec (s₂ ++ ' ' :: s₁) =
      match parseSpec s₂, parseSpec s₁ with
      | some (d₂, iv₂), some (d₁, iv₁) =>
        if iv₂.isSome && iv₁.isSome then none
        else some (d₂ ++ d₁, match iv₂ with
                             | some i => some i
                             | none => iv₁.map (· + d₂.length))
      | _, _ => none := by
  unfold parseSpec
  rw [splitWs_sep s₂ s₁ (rfl : isWs ' ' = true), parseToks_append, Nat.zero_add]
  cases h₂ : parseToks (splitWs s₂) 0 none with
  | none => rfl
  | some p₂ =>
    obtain ⟨d₂, iv₂⟩ := p₂
    dsimp only
    rw [parseToks_eq (splitWs s₁) (splitWs s₂).length, ← parseToks_length h₂]
    cases parseToks (splitWs s₁) 0 none with
    | none => rfl
    | some p₁ => obtain ⟨d₁, _ | i₁⟩ := p₁ <;> cases iv₂ <;> rfl

end JV
