/-
`_check_dims` and `_check_shape` against their declarative meaning (Spec/Array.lean): the greedy per-axis walk, the
history of one `*name`, the whole shape check in a normal form. Soundness and completeness (C01) and, through the
orders `SubSingle` / `SubVar` on memos, monotonicity and stability of accepted checks, on which Lemmas/Rollback
(`__instancecheck_str__`), Calls, Treepath and Trees build (C02, C04, C13, C16).
Core Lean only.
-/
import JaxVerif.Lemmas.Bcast

namespace JV

theorem lookup_cons_eq {β : Type} (k key : Key) (n : β) (σ : List (Key × β)) :
    List.lookup k ((key, n) :: σ) = if k = key then some n else σ.lookup k := by
  rw [List.lookup_cons]
  split <;> simp_all

theorem lookup_setVar (k : Key) (v : Bool × List Nat) (k' : Key) : ∀ ν : Variadic,
    (setVar k v ν).lookup k' = if k' = k then some v else ν.lookup k'
  | [] => by simp only [setVar, lookup_cons_eq, List.lookup_nil]
  | (k0, v0) :: rest => by
    simp only [setVar]
    split
    · next h0 => subst h0; simp only [lookup_cons_eq]; split <;> rfl
    · next h0 =>
      simp only [lookup_cons_eq, lookup_setVar k v k' rest]
      split
      · next h1 => rw [if_neg (h1 ▸ h0)]
      · rfl

theorem setVar_of_lookup {key : Key} {st : Bool × List Nat} : ∀ {ν : Variadic},
    ν.lookup key = some st → setVar key st ν = ν
  | [], h => by cases h
  | (k0, v0) :: rest, h => by
    rw [lookup_cons_eq] at h
    simp only [setVar]
    split at h
    · next h0 => cases h; rw [if_pos h0.symm, h0]
    · next h0 => rw [if_neg (Ne.symm h0), setVar_of_lookup h]

def SubSingle (σ τ : Single) : Prop := ∀ k n, σ.lookup k = some n → τ.lookup k = some n

theorem SubSingle.refl (σ : Single) : SubSingle σ σ := fun _ _ h => h

theorem SubSingle.trans {σ τ υ : Single} (h1 : SubSingle σ τ) (h2 : SubSingle τ υ) :
    SubSingle σ υ := fun k n h => h2 k n (h1 k n h)

theorem SubSingle.cons {σ : Single} {key : Key} (n : Nat) (h : σ.lookup key = none) :
    SubSingle σ ((key, n) :: σ) := fun k m hk => by
  rw [lookup_cons_eq, if_neg (fun e => by rw [e, h] at hk; cases hk)]; exact hk

theorem ExtendsSingle.of_sub {α : Key → Nat} {σ τ : Single} (h : SubSingle σ τ)
    (hα : ExtendsSingle α τ) : ExtendsSingle α σ := fun k n hk => hα k n (h k n hk)

theorem all2_iff_zip {α β : Type} {R : α → β → Prop} : ∀ {as : List α} {bs : List β},
    All2 R as bs ↔ as.length = bs.length ∧ ∀ p ∈ as.zip bs, R p.1 p.2
  | [], [] => ⟨fun _ => ⟨rfl, List.forall_mem_nil _⟩, fun _ => .nil⟩
  | [], _ :: _ => ⟨nofun, fun h => nomatch h.1⟩
  | _ :: _, [] => ⟨nofun, fun h => nomatch h.1⟩
  | a :: as, b :: bs => by
    constructor
    · rintro (_ | ⟨hab, ht⟩)
      obtain ⟨hl, hz⟩ := all2_iff_zip.mp ht
      exact ⟨congrArg (· + 1) hl, List.forall_mem_cons.mpr ⟨hab, hz⟩⟩
    · rintro ⟨hl, hz⟩
      obtain ⟨hab, hz⟩ := List.forall_mem_cons.mp hz
      exact .cons hab (all2_iff_zip.mpr ⟨Nat.succ.inj hl, hz⟩)

/-! ### symbolic axes: partial memo versus larger memo or total assignment

`r = .annErr ∨ r = r'`: evaluation over a partial memo either stops at an unbound name or agrees
with evaluation in a larger environment. `bind` respects this. -/

section
variable {args : Args} {σ τ : Single}

theorem bind_agree {β : Type} {r r' : Res Int} {f f' : Int → Res β}
    (hr : r = .annErr ∨ r = r') (hf : ∀ x, f x = .annErr ∨ f x = f' x) :
    (r >>= f) = .annErr ∨ (r >>= f) = (r' >>= f') := by
  rcases hr with rfl | rfl
  · exact .inl rfl
  · cases r with
    | ok x => exact hf x
    | _ => exact .inr rfl

theorem evalCore_var (x : String) :
    (Expr.var x).evalCore args σ = match σ.lookup (.plain x) with | some n => .ok n | none => .annErr := rfl

theorem evalCore_agree {α : Key → Nat} (h : ExtendsSingle α σ) :
    ∀ e : Expr, e.evalCore args σ = .annErr ∨ e.evalCore args σ = e.evalTCore args α
  | .lit _ | .hole _ => .inr rfl
  | .var x => by
    rw [evalCore_var]
    cases hx : σ.lookup (.plain x) with
    | none => exact .inl rfl
    | some n => exact .inr (congrArg (fun k : Nat => Res.ok (k : Int)) (h _ _ hx).symm)
  | .neg a => bind_agree (evalCore_agree h a) fun _ => .inr rfl
  | .add a b | .sub a b | .mul a b | .fdiv a b =>
    bind_agree (evalCore_agree h a) fun _ =>
      bind_agree (evalCore_agree h b) fun _ => .inr rfl

/-- only the plain keys matter -/
theorem evalCore_mono (h : ∀ x n, σ.lookup (.plain x) = some n → τ.lookup (.plain x) = some n) :
    ∀ e : Expr, e.evalCore args σ = .annErr ∨ e.evalCore args σ = e.evalCore args τ
  | .lit _ | .hole _ => .inr rfl
  | .var x => by
    rw [evalCore_var, evalCore_var]
    cases hx : σ.lookup (.plain x) with
    | none => exact .inl rfl
    | some n => rw [h _ _ hx]; exact .inr rfl
  | .neg a => bind_agree (evalCore_mono h a) fun _ => .inr rfl
  | .add a b | .sub a b | .mul a b | .fdiv a b =>
    bind_agree (evalCore_mono h a) fun _ =>
      bind_agree (evalCore_mono h b) fun _ => .inr rfl

theorem gate_agree {p : Res Unit} {r r' : Res Int} (h : r = .annErr ∨ r = r') :
    gate p r = .annErr ∨ gate p r = gate p r' := by
  cases p with
  | ok _ => exact h
  | annErr => exact .inl rfl
  | _ => exact .inr rfl

theorem eval_agree {α : Key → Nat} (h : ExtendsSingle α σ) (e : Expr) :
    e.eval args σ = .annErr ∨ e.eval args σ = e.evalT args α :=
  gate_agree (evalCore_agree h e)

theorem eval_mono (h : SubSingle σ τ) (e : Expr) :
    e.eval args σ = .annErr ∨ e.eval args σ = e.eval args τ :=
  gate_agree (evalCore_mono (fun x => h (.plain x)) e)

theorem ok_of_agree {r r' : Res Int} {v : Int} (h : r = .annErr ∨ r = r') (hv : r = .ok v) :
    r' = .ok v := by
  rcases h with h | h
  · rw [h] at hv; cases hv
  · exact h ▸ hv

end

section
variable {tp : TreePath} {args : Args} {σ σ' σ1 τ : Single} {d : Dim} {n : Nat} {l : List (Dim × Nat)}

theorem skip_iff {b : Bool} : (b && n == 1) = true ↔ (b = true ∧ n = 1) := by simp

theorem skip_false {b : Bool} (h : ¬ (b = true ∧ n = 1)) : (b && n == 1) = false :=
  Bool.eq_false_iff.mpr fun hh => h (skip_iff.mp hh)

theorem keyOf_cases (tp : TreePath) (x : String) (isTp : Bool) :
    (∃ key, keyOf tp x isTp = .ok key) ∨ (keyOf tp x isTp = .annErr ∧ isTp = true ∧ tp = none) := by
  cases isTp with
  | false => exact .inl ⟨_, rfl⟩
  | true =>
    cases tp with
    | none => exact .inr ⟨rfl, rfl, rfl⟩
    | some it => exact .inl ⟨_, rfl⟩

/-- `_check_dims` asks nothing of size `n` for this axis: it is `_`, or it is marked `#` and `n = 1` -/
abbrev Dim.Skips : Dim → Nat → Prop
  | .anon, _ => True
  | .fixed _ b, n | .named _ b _, n | .sym _ b, n => b = true ∧ n = 1

theorem checkDim_skip (h : d.Skips n) : checkDim tp args σ d n = .ok σ := by
  cases d with
  | anon => rfl
  | _ => simp only [checkDim, skip_iff.mpr h, if_true]

theorem checkDim_fixed {k : Int} {b : Bool} (h : ¬ (b = true ∧ n = 1)) :
    checkDim tp args σ (.fixed k b) n = if k = (n : Int) then .ok σ else .fail := by
  simp only [checkDim, skip_false h, Bool.false_eq_true, if_false]

theorem checkDim_sym {e : Expr} {b : Bool} (h : ¬ (b = true ∧ n = 1)) :
    checkDim tp args σ (.sym e b) n =
      match e.eval args σ with
      | .ok v => if v = (n : Int) then .ok σ else .fail
      | .fail => .fail
      | .annErr => .annErr
      | .exc x => .exc x σ := by
  simp only [checkDim, skip_false h, Bool.false_eq_true, if_false]
  cases e.eval args σ <;> rfl

theorem checkDim_named_ok {x : String} {b t : Bool} {key : Key} (h : ¬ (b = true ∧ n = 1))
    (hk : keyOf tp x t = .ok key) :
    checkDim tp args σ (.named x b t) n =
      match σ.lookup key with
      | none => .ok ((key, n) :: σ)
      | some m => if m = n then .ok σ else .fail := by
  simp only [checkDim, skip_false h, Bool.false_eq_true, if_false, hk]
  cases σ.lookup key <;> rfl

theorem checkDim_named_ann {x : String} {b t : Bool} (h : ¬ (b = true ∧ n = 1))
    (hk : keyOf tp x t = .annErr) : checkDim tp args σ (.named x b t) n = .annErr := by
  simp only [checkDim, skip_false h, Bool.false_eq_true, if_false, hk]

/-- The memo already settles axis `d` at size `n`: `SatDim` with the memo in place of a total assignment.
    An accepted step leads to a memo in which the axis holds (`checkDim_ok`), holding survives every
    extension of the memo (`DimHolds.mono`, `DimHolds.sat`), and an axis that holds is walked again
    without effect (`checkDim_of_holds`): soundness, idempotence and stability of the walk all come from here. -/
def DimHolds (tp : TreePath) (args : Args) (σ : Single) : Dim → Nat → Prop
  | .anon, _ => True
  | .fixed k b, n => (b = true ∧ n = 1) ∨ k = (n : Int)
  | .named x b isTp, n => (b = true ∧ n = 1) ∨ ∃ key, keyOf tp x isTp = .ok key ∧ σ.lookup key = some n
  | .sym e b, n => (b = true ∧ n = 1) ∨ e.eval args σ = .ok (n : Int)

theorem DimHolds.of_skips (h : d.Skips n) : DimHolds tp args σ d n := by
  cases d with
  | anon => trivial
  | _ => exact .inl h

theorem checkDim_ok (hd : checkDim tp args σ d n = .ok σ1) :
    SubSingle σ σ1 ∧ DimHolds tp args σ1 d n := by
  by_cases hs : d.Skips n
  · rw [checkDim_skip hs] at hd; cases hd; exact ⟨.refl _, .of_skips hs⟩
  cases d with
  | anon => exact absurd trivial hs
  | fixed k b =>
    rw [checkDim_fixed hs] at hd
    split at hd
    · next hkn => cases hd; exact ⟨.refl _, .inr hkn⟩
    · cases hd
  | sym e b =>
    rw [checkDim_sym hs] at hd
    split at hd
    · next v hv =>
      split at hd
      · next hvn => cases hd; exact ⟨.refl _, .inr (hvn ▸ hv)⟩
      · cases hd
    · cases hd
    · cases hd
    · cases hd
  | named x b t =>
    rcases keyOf_cases tp x t with ⟨key, hk⟩ | ⟨hk, _⟩
    · rw [checkDim_named_ok hs hk] at hd
      split at hd
      · next hnone =>
        cases hd
        exact ⟨.cons n hnone, .inr ⟨key, hk, by rw [lookup_cons_eq, if_pos rfl]⟩⟩
      · next m hm =>
        split at hd
        · next hmn => cases hd; exact ⟨.refl _, .inr ⟨key, hk, hmn ▸ hm⟩⟩
        · cases hd
    · rw [checkDim_named_ann hs hk] at hd; cases hd

theorem checkDim_of_holds (h : DimHolds tp args σ d n) : checkDim tp args σ d n = .ok σ := by
  by_cases hs : d.Skips n
  · exact checkDim_skip hs
  cases d with
  | anon => exact absurd trivial hs
  | fixed k b => rw [checkDim_fixed hs, if_pos (h.resolve_left hs)]
  | sym e b => rw [checkDim_sym hs, h.resolve_left hs]; exact if_pos rfl
  | named x b t =>
    obtain ⟨key, hk, hl⟩ := h.resolve_left hs
    rw [checkDim_named_ok hs hk, hl]; exact if_pos rfl

theorem DimHolds.mono (hτ : SubSingle σ τ) (h : DimHolds tp args σ d n) : DimHolds tp args τ d n := by
  cases d with
  | anon => trivial
  | fixed k b => exact h
  | sym e b => exact h.imp_right (ok_of_agree (eval_mono hτ e))
  | named x b t => exact h.imp_right fun ⟨key, hk, hl⟩ => ⟨key, hk, hτ key n hl⟩

theorem DimHolds.sat {α : Key → Nat} (hα : ExtendsSingle α σ) (h : DimHolds tp args σ d n) :
    SatDim tp args α d n := by
  cases d with
  | anon => trivial
  | fixed k b => exact h
  | sym e b => exact h.imp_right (ok_of_agree (eval_agree hα e))
  | named x b t => exact h.imp_right fun ⟨key, hk, hl⟩ => ⟨key, hk, hα key n hl⟩

theorem checkDim_complete {α : Key → Nat} (hα : ExtendsSingle α σ) (hs : SatDim tp args α d n) :
    (∃ σ', checkDim tp args σ d n = .ok σ' ∧ ExtendsSingle α σ') ∨
      checkDim tp args σ d n = .annErr := by
  by_cases hk : d.Skips n
  · exact .inl ⟨σ, checkDim_skip hk, hα⟩
  cases d with
  | anon => exact absurd trivial hk
  | fixed k b => exact .inl ⟨σ, checkDim_of_holds hs, hα⟩
  | sym e b =>
    rw [checkDim_sym hk]
    rcases eval_agree hα e with h1 | h1
    · rw [h1]; exact .inr rfl
    · rw [h1, hs.resolve_left hk]; exact .inl ⟨σ, if_pos rfl, hα⟩
  | named x b t =>
    obtain ⟨key, hkey, hkn⟩ := hs.resolve_left hk
    rw [checkDim_named_ok hk hkey]
    cases hl : σ.lookup key with
    | none =>
      refine .inl ⟨_, rfl, fun k m hkm => ?_⟩
      rw [lookup_cons_eq] at hkm
      split at hkm
      · next heq => cases hkm; exact heq ▸ hkn
      · exact hα k m hkm
    | some m => exact .inl ⟨σ, if_pos ((hα key m hl).symm.trans hkn), hα⟩

theorem checkDim_annErr_iff :
    checkDim tp args σ d n = .annErr ↔
      ((∃ e b, d = .sym e b ∧ ¬(b = true ∧ n = 1) ∧ e.eval args σ = .annErr) ∨
       (∃ x b, d = .named x b true ∧ ¬(b = true ∧ n = 1) ∧ tp = none)) := by
  constructor
  · intro h
    by_cases hs : d.Skips n
    · rw [checkDim_skip hs] at h; cases h
    cases d with
    | anon => exact absurd trivial hs
    | fixed k b => rw [checkDim_fixed hs] at h; split at h <;> cases h
    | sym e b =>
      rw [checkDim_sym hs] at h
      refine .inl ⟨e, b, rfl, hs, ?_⟩
      split at h
      · split at h <;> cases h
      · cases h
      · assumption
      · cases h
    | named x b t =>
      rcases keyOf_cases tp x t with ⟨key, hk⟩ | ⟨_, rfl, htp⟩
      · rw [checkDim_named_ok hs hk] at h
        split at h
        · cases h
        · split at h <;> cases h
      · exact .inr ⟨x, b, rfl, hs, htp⟩
  · rintro (⟨e, b, rfl, hb, he⟩ | ⟨x, b, rfl, hb, rfl⟩)
    · rw [checkDim_sym hb, he]
    · exact checkDim_named_ann hb rfl

theorem checkDims_cons {rest : List (Dim × Nat)} :
    checkDims tp args σ ((d, n) :: rest) =
      match checkDim tp args σ d n with
      | .ok σ' => checkDims tp args σ' rest
      | .fail => .fail
      | .annErr => .annErr
      | .exc e l => .exc e l := by
  cases h : checkDim tp args σ d n <;> simp only [checkDims, h]

theorem checkDims_cons_ok_iff {rest : List (Dim × Nat)} :
    checkDims tp args σ ((d, n) :: rest) = .ok σ' ↔
      ∃ σ1, checkDim tp args σ d n = .ok σ1 ∧ checkDims tp args σ1 rest = .ok σ' := by
  rw [checkDims_cons]
  cases checkDim tp args σ d n <;> simp

theorem checkDims_append : ∀ (l₁ l₂ : List (Dim × Nat)) (σ : Single),
    checkDims tp args σ (l₁ ++ l₂) =
      match checkDims tp args σ l₁ with
      | .ok σ' => checkDims tp args σ' l₂
      | .fail => .fail
      | .annErr => .annErr
      | .exc e l => .exc e l
  | [], _, _ => rfl
  | (d, n) :: l₁, l₂, σ => by
    rw [List.cons_append, checkDims_cons, checkDims_cons]
    cases checkDim tp args σ d n with
    | ok σ1 => exact checkDims_append l₁ l₂ σ1
    | _ => rfl

theorem checkDims_ok (h : checkDims tp args σ l = .ok σ') :
    SubSingle σ σ' ∧ ∀ p ∈ l, DimHolds tp args σ' p.1 p.2 := by
  induction l generalizing σ with
  | nil => cases h; exact ⟨.refl _, List.forall_mem_nil _⟩
  | cons p rest ih =>
    obtain ⟨σ1, h1, h2⟩ := checkDims_cons_ok_iff.mp h
    obtain ⟨hsub1, hd⟩ := checkDim_ok h1
    obtain ⟨hsub2, hrest⟩ := ih h2
    exact ⟨hsub1.trans hsub2, List.forall_mem_cons.mpr ⟨hd.mono hsub2, hrest⟩⟩

theorem checkDims_of_holds (h : ∀ p ∈ l, DimHolds tp args σ p.1 p.2) : checkDims tp args σ l = .ok σ := by
  induction l with
  | nil => rfl
  | cons p rest ih =>
    obtain ⟨hp, hrest⟩ := List.forall_mem_cons.mp h
    exact checkDims_cons_ok_iff.mpr ⟨σ, checkDim_of_holds hp, ih hrest⟩

theorem checkDims_sound {α : Key → Nat} (h : checkDims tp args σ l = .ok σ') (hα : ExtendsSingle α σ') :
    ExtendsSingle α σ ∧ ∀ p ∈ l, SatDim tp args α p.1 p.2 :=
  ⟨.of_sub (checkDims_ok h).1 hα, fun p hp => ((checkDims_ok h).2 p hp).sat hα⟩

theorem checkDims_complete {α : Key → Nat} (hα : ExtendsSingle α σ)
    (hs : ∀ p ∈ l, SatDim tp args α p.1 p.2) :
    (∃ σ', checkDims tp args σ l = .ok σ' ∧ ExtendsSingle α σ') ∨
      checkDims tp args σ l = .annErr := by
  induction l generalizing σ with
  | nil => exact .inl ⟨σ, rfl, hα⟩
  | cons p rest ih =>
    obtain ⟨hp, hrest⟩ := List.forall_mem_cons.mp hs
    rw [checkDims_cons]
    rcases checkDim_complete hα hp with ⟨σ1, h1, hα1⟩ | h1 <;> rw [h1]
    · exact ih hα1 hrest
    · exact .inr rfl

/-- the canonical total assignment of a memo -/
def asgOfSingle (σ : Single) : Key → Nat := fun k => (σ.lookup k).getD 0

theorem asgOfSingle_extends (σ : Single) : ExtendsSingle (asgOfSingle σ) σ := by
  intro k n hk; simp [asgOfSingle, hk]

theorem checkDims_iff (tp : TreePath) (args : Args) (σ : Single) (l : List (Dim × Nat))
    (hne : checkDims tp args σ l ≠ .annErr) :
    (∃ σ', checkDims tp args σ l = .ok σ') ↔
      ∃ α, ExtendsSingle α σ ∧ ∀ p ∈ l, SatDim tp args α p.1 p.2 := by
  constructor
  · rintro ⟨σ', h⟩
    exact ⟨asgOfSingle σ', checkDims_sound h (asgOfSingle_extends σ')⟩
  · rintro ⟨α, hα, hs⟩
    exact (checkDims_complete hα hs).elim (fun ⟨σ', h, _⟩ => ⟨σ', h⟩) (absurd · hne)

end

/-! ### one `*name`: the four-way branch -/

theorem SatV_true (v n : List Nat) : SatV v (true, n) ↔ BroadcastsTo n v := Iff.rfl
theorem SatV_false (v n : List Nat) : SatV v (false, n) ↔ n = v := Iff.rfl

section
variable {prev : Option (Bool × List Nat)} {st st' : Bool × List Nat} {b : Bool} {n s v : List Nat}

/-- a binding constrains the shape of `*name` as a use with the same flag and shape does -/
theorem ExtV_some_iff : ExtV v (some st) ↔ SatV v st := by
  obtain ⟨b, s⟩ := st
  cases b <;> exact Iff.rfl

/-- the `*name` branch from a memo that holds a `#` binding: the shapes must broadcast; a `#` use stores the
    joint shape, an exact use must itself be the joint shape and makes the binding exact -/
theorem vstep_hash_iff :
    vstep (some (true, s)) b n = some st ↔
      ∃ j, bcast n s = some j ∧ if b then st = (true, j) else j = n ∧ st = (false, n) := by
  simp only [vstep]
  cases bcast n s with
  | none => simp
  | some j =>
    cases b with
    | true => simp [@eq_comm _ _ st]
    | false =>
      by_cases hjn : j = n
      · simp [hjn, @eq_comm _ _ st]
      · simp [hjn]

/-- from an exact binding nothing changes: a `#` use must broadcast to it, an exact use must equal it -/
theorem vstep_exact_iff : vstep (some (false, s)) b n = some st ↔ st = (false, s) ∧ SatV s (b, n) := by
  unfold SatV BroadcastsTo
  cases b with
  | true =>
    simp only [vstep, if_true]
    cases bcast n s with
    | none => simp
    | some j => by_cases hjs : j = s <;> simp [hjs, @eq_comm _ _ st]
  | false =>
    by_cases hns : n = s <;> simp [vstep, hns, @eq_comm _ _ st]

theorem vstep_complete (hst : ExtV v prev) (hs : SatV v (b, n)) :
    ∃ st, vstep prev b n = some st ∧ ExtV v (some st) := by
  match prev with
  | none => exact ⟨(b, n), rfl, ExtV_some_iff.mpr hs⟩
  | some (false, s) =>
    subst (hst : s = v)
    exact ⟨(false, s), vstep_exact_iff.mpr ⟨rfl, hs⟩, rfl⟩
  | some (true, s) =>
    cases b with
    | true =>
      obtain ⟨j, hj, hjv⟩ := bt_lub hs hst
      exact ⟨(true, j), vstep_hash_iff.mpr ⟨j, hj, rfl⟩, hjv⟩
    | false =>
      subst (hs : n = v)
      exact ⟨(false, n), vstep_hash_iff.mpr ⟨n, bcast_comm s n ▸ hst, rfl, rfl⟩, rfl⟩

theorem vstep_sound (h : vstep prev b n = some st) (hv : ExtV v (some st)) :
    ExtV v prev ∧ SatV v (b, n) := by
  match prev with
  | none => cases h; exact ⟨trivial, ExtV_some_iff.mp hv⟩
  | some (false, s) =>
    obtain ⟨rfl, hbn⟩ := vstep_exact_iff.mp h
    subst (hv : s = v)
    exact ⟨rfl, hbn⟩
  | some (true, s) =>
    obtain ⟨j, hj, hst⟩ := vstep_hash_iff.mp h
    obtain ⟨hnj, hsj⟩ := bcast_upper hj
    cases b with
    | true => cases hst; exact ⟨bt_trans hsj hv, bt_trans hnj hv⟩
    | false =>
      obtain ⟨rfl, rfl⟩ := hst
      subst (hv : j = v)
      exact ⟨hsj, rfl⟩

theorem vstep_idem (h : vstep prev b n = some st) : vstep (some st) b n = some st := by
  match prev with
  | none =>
    cases h
    cases b
    · exact vstep_exact_iff.mpr ⟨rfl, rfl⟩
    · exact vstep_hash_iff.mpr ⟨n, bt_refl n, rfl⟩
  | some (false, s) => obtain ⟨rfl, _⟩ := vstep_exact_iff.mp h; exact h
  | some (true, s) =>
    obtain ⟨j, hj, hst⟩ := vstep_hash_iff.mp h
    cases b with
    | true => cases hst; exact vstep_hash_iff.mpr ⟨j, (bcast_upper hj).1, rfl⟩
    | false => obtain ⟨rfl, rfl⟩ := hst; exact vstep_exact_iff.mpr ⟨rfl, rfl⟩

theorem vstep_stable {b' : Bool} {n' : List Nat} (hstep : vstep (some st) b' n' = some st')
    (hfix : vstep (some st) b n = some st) : vstep (some st') b n = some st' := by
  obtain ⟨_ | _, s⟩ := st
  · obtain ⟨rfl, _⟩ := vstep_exact_iff.mp hstep; exact hfix
  · obtain ⟨j, hj, hb⟩ := vstep_hash_iff.mp hfix
    cases b with
    | false => cases hb.2
    | true =>
      cases hb
      obtain ⟨j', hj', hst'⟩ := vstep_hash_iff.mp hstep
      have hnj' : BroadcastsTo n j' := bt_trans hj (bcast_upper hj').2
      cases b' with
      | true => cases hst'; exact vstep_hash_iff.mpr ⟨j', hnj', rfl⟩
      | false => obtain ⟨rfl, rfl⟩ := hst'; exact vstep_exact_iff.mpr ⟨rfl, hnj'⟩

theorem vstep_flag (h : vstep prev b n = some st) : st.1 = ((prev.map (·.1)).getD true && b) := by
  match prev with
  | none => cases h; rfl
  | some (false, s) => obtain ⟨rfl, _⟩ := vstep_exact_iff.mp h; rfl
  | some (true, s) =>
    obtain ⟨j, _, hst⟩ := vstep_hash_iff.mp h
    cases b with
    | true => cases hst; rfl
    | false => cases hst.2; rfl

end

section
variable {st st' : Option (Bool × List Nat)} {us : List (Bool × List Nat)} {v : List Nat}

theorem vrun_cons_iff {b : Bool} {n : List Nat} :
    vrun st ((b, n) :: us) = some st' ↔
      ∃ st1, vstep st b n = some st1 ∧ vrun (some st1) us = some st' := by
  simp only [vrun]
  cases vstep st b n <;> simp

theorem ExtV_self : ∀ (b : Bool) (s : List Nat), ExtV s (some (b, s))
  | true, s => bt_refl s
  | false, _ => rfl

theorem ExtV_witness : ∀ st : Option (Bool × List Nat), ∃ v, ExtV v st
  | none => ⟨[], trivial⟩
  | some (b, s) => ⟨s, ExtV_self b s⟩

theorem vrun_sound (h : vrun st us = some st') (hv : ExtV v st') :
    ExtV v st ∧ ∀ u ∈ us, SatV v u := by
  induction us generalizing st with
  | nil => cases h; exact ⟨hv, List.forall_mem_nil _⟩
  | cons u rest ih =>
    obtain ⟨st1, hs, hr⟩ := vrun_cons_iff.mp h
    obtain ⟨hv1, hall⟩ := ih hr
    obtain ⟨h0, h1⟩ := vstep_sound hs hv1
    exact ⟨h0, List.forall_mem_cons.mpr ⟨h1, hall⟩⟩

theorem vrun_complete (hv : ExtV v st) (hall : ∀ u ∈ us, SatV v u) :
    ∃ st', vrun st us = some st' ∧ ExtV v st' := by
  induction us generalizing st with
  | nil => exact ⟨st, rfl, hv⟩
  | cons u rest ih =>
    obtain ⟨hu, hrest⟩ := List.forall_mem_cons.mp hall
    obtain ⟨st1, hs, hv1⟩ := vstep_complete hv hu
    obtain ⟨st', hr, hv'⟩ := ih hv1 hrest
    exact ⟨st', vrun_cons_iff.mpr ⟨st1, hs, hr⟩, hv'⟩

theorem vrun_flag {st' : Bool × List Nat} (h : vrun st us = some (some st')) :
    st'.1 = ((st.map (·.1)).getD true && us.all (·.1)) := by
  induction us generalizing st with
  | nil => cases h; simp
  | cons u rest ih =>
    obtain ⟨st1, hs, hr⟩ := vrun_cons_iff.mp h
    rw [ih hr, List.all_cons, ← Bool.and_assoc, ← vstep_flag hs]; rfl

end

theorem vrun_iff (st : Option (Bool × List Nat)) (us : List (Bool × List Nat)) :
    (∃ st', vrun st us = some st') ↔ ∃ v, ExtV v st ∧ ∀ u ∈ us, SatV v u := by
  constructor
  · rintro ⟨st', h⟩
    obtain ⟨v, hv⟩ := ExtV_witness st'
    exact ⟨v, vrun_sound h hv⟩
  · rintro ⟨v, hv, hall⟩
    obtain ⟨st', h, _⟩ := vrun_complete hv hall
    exact ⟨st', h⟩

/-! ### the whole shape check, in normal form

`_check_shape` tests the rank, walks the single axes before and after the multi-axis specifier in ONE pass over the
memo (`Shape.axes`) and then treats the sizes in between (`Shape.mid`). Everything below reasons about this form. -/

section
variable {tp : TreePath} {args : Args} {σ σ' τ : Single} {ν ν' ν'' : Variadic} {sh : Shape} {shape : List Nat}

def Shape.rankOk (sh : Shape) (shape : List Nat) : Prop :=
  match sh.var with
  | none => shape.length = sh.pre.length
  | some (_, suf) => sh.pre.length + suf.length ≤ shape.length

/-- the single axes with the sizes they are checked against, in walk order -/
def Shape.axes (sh : Shape) (shape : List Nat) : List (Dim × Nat) :=
  match sh.var with
  | none => sh.pre.zip shape
  | some (_, suf) =>
    sh.pre.zip (shape.take sh.pre.length) ++ suf.zip (shape.drop (shape.length - suf.length))

/-- the sizes a multi-axis specifier stands for -/
def Shape.mid (sh : Shape) (shape : List Nat) : List Nat :=
  match sh.var with
  | none => []
  | some (_, suf) => (shape.drop sh.pre.length).take (shape.length - sh.pre.length - suf.length)

/-- what an accepted check does to the multi-axis memo -/
def VarStep (tp : TreePath) (sh : Shape) (shape : List Nat) (ν ν' : Variadic) : Prop :=
  match sh.var with
  | some (.namedVar x b isTp, _) => ∃ key st, keyOf tp x isTp = .ok key ∧
      vstep (ν.lookup key) b (sh.mid shape) = some st ∧ ν' = setVar key st ν
  | _ => ν' = ν

theorem checkShape_ok_iff :
    checkShape tp args sh shape σ ν = .ok (σ', ν') ↔
      sh.rankOk shape ∧ checkDims tp args σ (sh.axes shape) = .ok σ' ∧ VarStep tp sh shape ν ν' := by
  obtain ⟨pre, var⟩ := sh
  -- stage by stage (rank test, the walks, the `*name` branch): where a stage does not answer `ok` neither side holds
  -- (`hc` is the equation of the check, `hd` / `hkey` / `hst` that of the stage); where all do, both sides say which
  -- memos come out
  match var with
  | none =>
    simp only [checkShape, Shape.rankOk, Shape.axes, VarStep]
    by_cases hrank : shape.length = pre.length
    · rw [if_neg (by simpa using hrank)]
      cases checkDims tp args σ (pre.zip shape) with
      | ok σ1 =>
        simp only [Walk.ok.injEq, Prod.mk.injEq, hrank, true_and]
        exact and_congr Iff.rfl eq_comm
      | _ => exact iff_of_false (by intro hc; cases hc) (by rintro ⟨_, hd, _⟩; cases hd)
    · rw [if_pos (by simpa using hrank)]
      exact iff_of_false (by intro hc; cases hc) fun hr => hrank hr.1
  | some (v, suf) =>
    simp only [checkShape, Shape.rankOk, Shape.axes, checkDims_append]
    by_cases hrank : pre.length + suf.length ≤ shape.length
    · rw [if_neg (Nat.not_lt.mpr hrank)]
      cases checkDims tp args σ (pre.zip (shape.take pre.length)) with
      | ok σ1 =>
        dsimp only
        cases checkDims tp args σ1 (suf.zip (shape.drop (shape.length - suf.length))) with
        | ok σ2 =>
          cases v with
          | anonVar =>
            simp only [VarStep, Walk.ok.injEq, Prod.mk.injEq, hrank, true_and]
            exact and_congr Iff.rfl eq_comm
          | namedVar x b t =>
            simp only [VarStep, Shape.mid, hrank, true_and]
            cases keyOf tp x t with
            | ok key =>
              simp only [Res.ok.injEq, exists_and_left, exists_eq_left']
              generalize vstep _ _ _ = r
              cases r with
              | none => exact iff_of_false (by intro hc; cases hc) (by rintro ⟨_, _, hst, _⟩; cases hst)
              | some st =>
                simp only [Walk.ok.injEq, Prod.mk.injEq, Option.some.injEq, exists_eq_left']
                exact and_congr Iff.rfl eq_comm
            | _ => exact iff_of_false (by intro hc; cases hc) (by rintro ⟨_, _, _, hkey, _⟩; cases hkey)
        | _ => exact iff_of_false (by intro hc; cases hc) (by rintro ⟨_, hd, _⟩; cases hd)
      | _ => exact iff_of_false (by intro hc; cases hc) (by rintro ⟨_, hd, _⟩; cases hd)
    · rw [if_pos (Nat.lt_of_not_le hrank)]
      exact iff_of_false (by intro hc; cases hc) fun hr => hrank hr.1

theorem checkShape_annErr (hr : sh.rankOk shape)
    (h : checkDims tp args σ (sh.axes shape) = .annErr) :
    checkShape tp args sh shape σ ν = .annErr := by
  obtain ⟨pre, var⟩ := sh
  match var with
  | none =>
    simp only [Shape.rankOk] at hr
    simp only [Shape.axes] at h
    simp [checkShape, hr, h]
  | some (v, suf) =>
    simp only [Shape.rankOk] at hr
    simp only [Shape.axes, checkDims_append] at h
    simp only [checkShape, Nat.not_lt.mpr hr, if_false]
    cases h1 : checkDims tp args σ (pre.zip (shape.take pre.length)) with
    | ok σ1 => rw [h1] at h; simp only [h]
    | annErr => rfl
    | fail => rw [h1] at h; cases h
    | exc e l => rw [h1] at h; cases h

theorem shape_split {i s : Nat} (h : i + s ≤ shape.length) :
    shape = shape.take i ++ (shape.drop i).take (shape.length - i - s) ++
      shape.drop (shape.length - s) := by
  have : shape.drop (shape.length - s) = (shape.drop i).drop (shape.length - i - s) := by
    rw [List.drop_drop, Nat.sub_right_comm, Nat.add_sub_cancel' (Nat.le_sub_of_add_le h)]
  rw [this, List.append_assoc, List.take_append_drop, List.take_append_drop]

theorem split_take (p m s : List Nat) : (p ++ m ++ s).take p.length = p := by
  rw [List.append_assoc, List.take_left]

theorem split_drop (p m s : List Nat) :
    (p ++ m ++ s).drop ((p ++ m ++ s).length - s.length) = s := by
  rw [List.length_append, Nat.add_sub_cancel, List.drop_left]

theorem split_mid (p m s : List Nat) :
    ((p ++ m ++ s).drop p.length).take ((p ++ m ++ s).length - p.length - s.length) = m := by
  rw [List.length_append, List.length_append, Nat.sub_right_comm, Nat.add_sub_cancel,
    Nat.add_sub_cancel_left, List.append_assoc, List.drop_left, List.take_left]

/-- `Matches` in the terms of the normal form: the split of the shape it asks for is the one the code takes -/
theorem matches_iff {α : Asg} :
    Matches tp args α sh shape ↔
      sh.rankOk shape ∧ (∀ p ∈ sh.axes shape, SatDim tp args α.single p.1 p.2) ∧
        ∀ v suf, sh.var = some (v, suf) → SatVar tp α.var v (sh.mid shape) := by
  obtain ⟨pre, var⟩ := sh
  match var with
  | none =>
    simp only [Matches, Shape.rankOk, Shape.axes, all2_iff_zip]
    exact ⟨fun ⟨hl, hz⟩ => ⟨hl.symm, hz, nofun⟩, fun ⟨hl, hz, _⟩ => ⟨hl.symm, hz⟩⟩
  | some (v, suf) =>
    simp only [Matches, Shape.rankOk, Shape.axes, Shape.mid, all2_iff_zip, List.forall_mem_append,
      Option.some.injEq, Prod.mk.injEq]
    constructor
    · rintro ⟨p, m, s, rfl, ⟨hpl, hp⟩, ⟨hsl, hs⟩, hv⟩
      rw [hpl, hsl, split_take, split_drop, split_mid, List.length_append, List.length_append]
      refine ⟨Nat.add_le_add_right (Nat.le_add_right _ _) _, ⟨hp, hs⟩, ?_⟩
      rintro _ _ ⟨rfl, rfl⟩
      exact hv
    · rintro ⟨hlen, ⟨hp, hs⟩, hv⟩
      have hpl := List.length_take_of_le (Nat.le_trans (Nat.le_add_right _ _) hlen)
      have hsl : (shape.drop (shape.length - suf.length)).length = suf.length := by
        rw [List.length_drop, Nat.sub_sub_self (Nat.le_trans (Nat.le_add_left _ _) hlen)]
      exact ⟨_, _, _, shape_split hlen, ⟨hpl.symm, hp⟩, ⟨hsl.symm, hs⟩, hv _ _ ⟨rfl, rfl⟩⟩

/-- Every `*name` bound in `ν` is bound in `ν'`, and `ν'` accepts, unchanged, every use that `ν` accepts
    unchanged. Stated through the uses and not through the bindings because a binding may change along the order (a `#`
    binding grows to the joint shape, or becomes exact); what an accepted check needs later is only that its own
    use stays accepted without effect (`VarStep.stable`), and every constraint on an assignment is such a use
    (`ExtendsVar.of_sub`). -/
def SubVar (ν ν' : Variadic) : Prop :=
  ∀ key st, ν.lookup key = some st → ∃ st', ν'.lookup key = some st' ∧
    ∀ b n, vstep (some st) b n = some st → vstep (some st') b n = some st'

theorem SubVar.refl (ν : Variadic) : SubVar ν ν := fun _ st h => ⟨st, h, fun _ _ h => h⟩

theorem SubVar.trans {ν₁ ν₂ ν₃ : Variadic} (h1 : SubVar ν₁ ν₂) (h2 : SubVar ν₂ ν₃) :
    SubVar ν₁ ν₃ := by
  intro key st h
  obtain ⟨st2, hl2, hf2⟩ := h1 key st h
  obtain ⟨st3, hl3, hf3⟩ := h2 key st2 hl2
  exact ⟨st3, hl3, fun b n hb => hf3 b n (hf2 b n hb)⟩

theorem extV_of_extendsVar {α : Key → List Nat} (h : ExtendsVar α ν) (k : Key) :
    ExtV (α k) (ν.lookup k) := by
  cases hl : ν.lookup k with
  | none => trivial
  | some bs => exact ExtV_some_iff.mpr (h k bs.1 bs.2 hl)

theorem ExtendsVar.of_sub {α : Key → List Nat} (h : SubVar ν ν')
    (hα : ExtendsVar α ν') : ExtendsVar α ν := by
  intro k b s hl
  obtain ⟨st', hl', hfix⟩ := h k (b, s) hl
  -- a stored binding accepts its own use unchanged; so then does `st'`, and what `st'` accepts `α k` satisfies
  have hself := hfix b s (vstep_idem (prev := none) rfl)
  exact (vstep_sound hself (hl' ▸ extV_of_extendsVar hα k)).2

theorem VarStep.sub (h : VarStep tp sh shape ν ν') : SubVar ν ν' := by
  unfold VarStep at h
  split at h
  · obtain ⟨key, st, _, hv, rfl⟩ := h
    intro k s hk
    rw [lookup_setVar]
    split
    · next hkk => subst hkk; rw [hk] at hv; exact ⟨st, rfl, fun b n => vstep_stable hv⟩
    · exact ⟨s, hk, fun _ _ h => h⟩
  · exact h ▸ .refl ν

theorem VarStep.stable (h : VarStep tp sh shape ν ν') (hsub : SubVar ν' ν'') :
    VarStep tp sh shape ν'' ν'' := by
  unfold VarStep at h ⊢
  split at h
  · obtain ⟨key, st, hk, hv, rfl⟩ := h
    obtain ⟨st', hl', hfix⟩ := hsub key st (by rw [lookup_setVar, if_pos rfl])
    exact ⟨key, st', hk, hl' ▸ hfix _ _ (vstep_idem hv), (setVar_of_lookup hl').symm⟩
  · rfl

theorem VarStep.sound {α : Key → List Nat} (h : VarStep tp sh shape ν ν') (hα : ExtendsVar α ν') :
    ∀ v suf, sh.var = some (v, suf) → SatVar tp α v (sh.mid shape) := by
  intro v suf hvar
  unfold VarStep at h
  rw [hvar] at h
  cases v with
  | anonVar => trivial
  | namedVar x b t =>
    obtain ⟨key, st, hk, hv, rfl⟩ := h
    have hst := extV_of_extendsVar hα key
    rw [lookup_setVar, if_pos rfl] at hst
    exact ⟨key, hk, (vstep_sound hv hst).2⟩

theorem VarStep.complete {α : Key → List Nat} (hα : ExtendsVar α ν)
    (hs : ∀ v suf, sh.var = some (v, suf) → SatVar tp α v (sh.mid shape)) :
    ∃ ν', VarStep tp sh shape ν ν' ∧ ExtendsVar α ν' := by
  unfold VarStep
  split
  · next x b t suf hvar =>
    obtain ⟨key, hk, hsat⟩ := hs _ _ hvar
    obtain ⟨st, hst, hext⟩ := vstep_complete (extV_of_extendsVar hα key) hsat
    refine ⟨_, ⟨key, st, hk, hst, rfl⟩, fun k b' s hl => ?_⟩
    rw [lookup_setVar] at hl
    split at hl
    · next hkk => cases hl; exact hkk ▸ ExtV_some_iff.mp hext
    · exact hα k b' s hl
  · exact ⟨ν, rfl, hα⟩

theorem checkShape_sound {α : Asg} (h : checkShape tp args sh shape σ ν = .ok (σ', ν'))
    (hα : Extends α σ' ν') : Extends α σ ν ∧ Matches tp args α sh shape := by
  obtain ⟨hrank, hdims, hvar⟩ := checkShape_ok_iff.mp h
  obtain ⟨hσ, hsat⟩ := checkDims_sound hdims hα.1
  exact ⟨⟨hσ, .of_sub hvar.sub hα.2⟩, matches_iff.mpr ⟨hrank, hsat, hvar.sound hα.2⟩⟩

theorem checkShape_complete {α : Asg} (hα : Extends α σ ν) (hm : Matches tp args α sh shape) :
    (∃ σ' ν', checkShape tp args sh shape σ ν = .ok (σ', ν') ∧ Extends α σ' ν') ∨
      checkShape tp args sh shape σ ν = .annErr := by
  obtain ⟨hrank, hdims, hvar⟩ := matches_iff.mp hm
  rcases checkDims_complete hα.1 hdims with ⟨σ', hc, hσ'⟩ | hc
  · obtain ⟨ν', hstep, hν'⟩ := VarStep.complete hα.2 hvar
    exact .inl ⟨σ', ν', checkShape_ok_iff.mpr ⟨hrank, hc, hstep⟩, hσ', hν'⟩
  · exact .inr (checkShape_annErr hrank hc)

theorem checkShape_mono (h : checkShape tp args sh shape σ ν = .ok (σ', ν')) :
    SubSingle σ σ' ∧ SubVar ν ν' :=
  have ⟨_, hdims, hvar⟩ := checkShape_ok_iff.mp h
  ⟨(checkDims_ok hdims).1, hvar.sub⟩

/-- a shape walk accepted once is accepted, and changes nothing, from every memo that extends the one it
    produced: idempotence (from that memo itself) and stability under later checks in one -/
theorem checkShape_stable (h : checkShape tp args sh shape σ ν = .ok (σ', ν'))
    (hσ : SubSingle σ' τ) (hν : SubVar ν' ν'') :
    checkShape tp args sh shape τ ν'' = .ok (τ, ν'') :=
  have ⟨hrank, hdims, hvar⟩ := checkShape_ok_iff.mp h
  checkShape_ok_iff.mpr
    ⟨hrank, checkDims_of_holds fun p hp => ((checkDims_ok hdims).2 p hp).mono hσ, hvar.stable hν⟩

end

end JV
