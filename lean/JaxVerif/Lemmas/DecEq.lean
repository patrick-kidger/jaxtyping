/-
Decidable equality of structure definitions, memos and observations. The model derives only `Repr` for them; the
`by decide` theorems and non-vacuity examples of Properties/ compare such values, and C07 counts observations
(`List.count` uses the `BEq` that comes with `DecidableEq`).
The instances, and the lemmas on `Def.beq` under them, are not in `JV` itself, so that their names cannot clash with
instances derived in the model later. The two sub-namespaces are named after what compares the values, not after a file
(Lemmas/Rollback and Lemmas/Disable are in `JV`): `JV.Rollback` for `Def` and `Memo`, which the rollback property C04
compares in its examples (`Rollback.beq_eq`, `Rollback.beq_refl` are what Lemmas/Structs and C09 cite); `JV.Disable`
for `Obs`, the observations by which C19 compares runs with checking disabled.
Core Lean only.
-/
import JaxVerif.Model.Call

namespace JV.Rollback

mutual
theorem beq_eq : ∀ a b : Def, Def.beq a b = true → a = b
  | .leaf, .leaf, _ => rfl
  | .leaf, .node _ _, h => by simp [Def.beq] at h
  | .node _ _, .leaf, h => by simp [Def.beq] at h
  | .node k cs, .node k' cs', h => by
    simp only [Def.beq, Bool.and_eq_true, beq_iff_eq] at h
    rw [h.1, beqList_eq cs cs' h.2]
theorem beqList_eq : ∀ as bs : List Def, Def.beqList as bs = true → as = bs
  | [], [], _ => rfl
  | [], _ :: _, h => by simp [Def.beqList] at h
  | _ :: _, [], h => by simp [Def.beqList] at h
  | a :: as, b :: bs, h => by
    simp only [Def.beqList, Bool.and_eq_true] at h
    rw [beq_eq a b h.1, beqList_eq as bs h.2]
end

mutual
theorem beq_refl : ∀ a : Def, Def.beq a a = true
  | .leaf => rfl
  | .node k cs => by simp only [Def.beq, beq_self_eq_true, beqList_refl cs, Bool.and_self]
theorem beqList_refl : ∀ as : List Def, Def.beqList as as = true
  | [] => rfl
  | a :: as => by simp only [Def.beqList, beq_refl a, beqList_refl as, Bool.and_self]
end

instance instDecidableEqDef : DecidableEq Def := fun a b =>
  if h : Def.beq a b = true then isTrue (beq_eq a b h)
  else isFalse (fun e => h (e ▸ beq_refl a))

deriving instance DecidableEq for JV.Memo
end JV.Rollback

namespace JV.Disable
deriving instance DecidableEq for JV.Obs
end JV.Disable

