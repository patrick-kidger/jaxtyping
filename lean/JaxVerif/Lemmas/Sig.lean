/-
For C07 (`C07_same_signature`): the parameter list `_make_fn_with_signature` renders (`renderSig`, Model/Sig.lean), read
back by the model of Python's parameter-list grammar (`parsePieces`), is the signature grouped by kind, for any
parameter list (`parse_render`). Rendered and read block by block: the positional-only group with its `/`, the
positional-or-keyword group, `*name` or a bare `*` (`starPiece`), the keyword-only group, `**name` (`dstarPiece`).
Core Lean only.
-/
import JaxVerif.Model.Sig

namespace JV

theorem ofKind_append (k : PKind) (a b : List SParam) : ofKind k (a ++ b) = ofKind k a ++ ofKind k b :=
  List.filter_append ..

theorem ofKind_of_kind {k' : PKind} {l : List SParam} (h : ∀ p ∈ l, p.kind = k') (k : PKind) :
    ofKind k l = if k' = k then l else [] := by
  unfold ofKind
  split
  · next e => exact List.filter_eq_self.mpr fun p hp => beq_iff_eq.mpr ((h p hp).trans e)
  · next e => exact List.filter_eq_nil_iff.mpr fun p hp hk => e ((h p hp).symm.trans (beq_iff_eq.mp hk))

theorem kind_of_mem_ofKind {k : PKind} {l : List SParam} {p : SParam} (h : p ∈ ofKind k l) : p.kind = k :=
  beq_iff_eq.mp (List.mem_filter.mp h).2

theorem SParam.withKind_eq {p : SParam} {k : PKind} (h : p.kind = k) : { p with kind := k } = p := by
  cases h
  rfl

theorem splitSlash_params (l : List SParam) (rest : List Piece) :
    splitSlash (l.map Piece.param ++ Piece.slash :: rest) = some (l.map Piece.param, rest) := by
  induction l with
  | nil => rfl
  | cons p ps ih => simp [splitSlash, ih]

theorem splitSlash_append_none : ∀ {a rest : List Piece}, (∀ x ∈ a, x ≠ Piece.slash) → splitSlash rest = none →
    splitSlash (a ++ rest) = none
  | [], _, _, h => h
  | x :: xs, rest, ha, h => by
    obtain ⟨hx, hxs⟩ := List.forall_mem_cons.mp ha
    have ih := splitSlash_append_none hxs h
    cases x with
    | slash => exact absurd rfl hx
    | param _ | star | starParam _ | dstarParam _ => show (splitSlash (xs ++ rest)).map _ = none; rw [ih]; rfl

theorem splitSlash_none_params (l : List SParam) (rest : List Piece) (h : splitSlash rest = none) :
    splitSlash (l.map Piece.param ++ rest) = none :=
  splitSlash_append_none (fun _ hx => (List.mem_map.mp hx).elim fun _ hp => hp.2 ▸ Piece.noConfusion) h

theorem asPosOnly_params (l : List SParam) (h : ∀ p ∈ l, p.kind = .posOnly) :
    asPosOnly (l.map Piece.param) = l := by
  induction l with
  | nil => rfl
  | cons p ps ih =>
    obtain ⟨hp, hps⟩ := List.forall_mem_cons.mp h
    show { p with kind := .posOnly } :: asPosOnly (ps.map Piece.param) = p :: ps
    rw [SParam.withKind_eq hp, ih hps]

theorem readRest_params (s : Bool) (l : List SParam) (rest : List Piece)
    (h : ∀ p ∈ l, p.kind = if s then .kwOnly else .posOrKw) :
    readRest s (l.map Piece.param ++ rest) = l ++ readRest s rest := by
  induction l with
  | nil => rfl
  | cons p ps ih =>
    obtain ⟨hp, hps⟩ := List.forall_mem_cons.mp h
    show { p with kind := if s then .kwOnly else .posOrKw } :: readRest s (ps.map Piece.param ++ rest) = _
    rw [SParam.withKind_eq hp, ih hps]
    rfl

/-- a signature in Python's canonical order, split by kind -/
structure CSig where
  pos : List SParam
  pok : List SParam
  vp : List SParam
  key : List SParam
  vk : List SParam

def CSig.toList (c : CSig) : List SParam := c.pos ++ c.pok ++ c.vp ++ c.key ++ c.vk

structure CSig.WF (c : CSig) : Prop where
  hpos : ∀ p ∈ c.pos, p.kind = .posOnly
  hpok : ∀ p ∈ c.pok, p.kind = .posOrKw
  hvp : ∀ p ∈ c.vp, p.kind = .varPos
  hkey : ∀ p ∈ c.key, p.kind = .kwOnly
  hvk : ∀ p ∈ c.vk, p.kind = .varKw
  vp1 : c.vp.length ≤ 1
  vk1 : c.vk.length ≤ 1

theorem CSig.ofKind_toList (c : CSig) (h : c.WF) (k : PKind) :
    ofKind k c.toList =
      (if .posOnly = k then c.pos else []) ++ (if .posOrKw = k then c.pok else []) ++
      (if .varPos = k then c.vp else []) ++ (if .kwOnly = k then c.key else []) ++
      (if .varKw = k then c.vk else []) := by
  unfold CSig.toList
  rw [ofKind_append, ofKind_append, ofKind_append, ofKind_append, ofKind_of_kind h.hpos,
    ofKind_of_kind h.hpok, ofKind_of_kind h.hvp, ofKind_of_kind h.hkey, ofKind_of_kind h.hvk]

theorem eq_nil_or_singleton {α : Type} : ∀ {l : List α}, l.length ≤ 1 → l = [] ∨ ∃ a, l = [a]
  | [], _ => .inl rfl
  | [a], _ => .inr ⟨a, rfl⟩
  | _ :: _ :: _, h => absurd (Nat.le_of_succ_le_succ h) (Nat.not_succ_le_zero _)

/-- the piece between the positional and the keyword-only parameters: `*name`, or a bare `*` when
    keyword-only parameters follow -/
def starPiece (vp key : List SParam) : List Piece :=
  match vp with
  | [p] => [.starParam p]
  | _ => if key.isEmpty then [] else [.star]

def dstarPiece (vk : List SParam) : List Piece :=
  match vk with
  | [p] => [.dstarParam p]
  | _ => []

theorem renderSig_eq (sig extra : List SParam) :
    renderSig sig extra =
      (if (ofKind .posOnly sig).isEmpty then [] else (ofKind .posOnly sig).map .param ++ [.slash]) ++
      ((ofKind .posOrKw sig).map .param ++
        (starPiece (ofKind .varPos sig) (ofKind .kwOnly sig ++ extra) ++
          ((ofKind .kwOnly sig ++ extra).map .param ++ dstarPiece (ofKind .varKw sig)))) := by
  unfold renderSig
  simp only [List.append_assoc]
  rfl

/-- read back, `starPiece` gives the variadic positional parameter, and what follows is
    keyword-only unless nothing was emitted -/
theorem readRest_star {vp : List SParam} (key : List SParam) (rest : List Piece)
    (hvp : ∀ p ∈ vp, p.kind = .varPos) (h1 : vp.length ≤ 1) :
    readRest false (starPiece vp key ++ rest) = vp ++ readRest (!(vp.isEmpty && key.isEmpty)) rest := by
  rcases eq_nil_or_singleton h1 with rfl | ⟨p, rfl⟩
  · cases key <;> rfl
  · show { p with kind := .varPos } :: readRest true rest = _
    rw [SParam.withKind_eq (hvp p List.mem_cons_self)]
    rfl

theorem readRest_dstar (s : Bool) {vk : List SParam} (hvk : ∀ p ∈ vk, p.kind = .varKw) (h1 : vk.length ≤ 1) :
    readRest s (dstarPiece vk) = vk := by
  rcases eq_nil_or_singleton h1 with rfl | ⟨p, rfl⟩
  · rfl
  · show [{ p with kind := .varKw }] = _
    rw [SParam.withKind_eq (hvk p List.mem_cons_self)]

theorem starPiece_no_slash (vp key : List SParam) : ∀ x ∈ starPiece vp key, x ≠ Piece.slash := by
  unfold starPiece
  split
  · exact fun x hx => List.mem_singleton.mp hx ▸ Piece.noConfusion
  · split
    · exact List.forall_mem_nil _
    · exact fun x hx => List.mem_singleton.mp hx ▸ Piece.noConfusion

theorem splitSlash_dstar (vk : List SParam) : splitSlash (dstarPiece vk) = none := by
  unfold dstarPiece
  split <;> rfl

theorem parsePieces_pos {pos : List SParam} {tail : List Piece} (hpos : ∀ p ∈ pos, p.kind = .posOnly)
    (ht : splitSlash tail = none) :
    parsePieces ((if pos.isEmpty then [] else pos.map Piece.param ++ [Piece.slash]) ++ tail) =
      pos ++ readRest false tail := by
  cases pos with
  | nil => simp only [parsePieces, List.isEmpty_nil, if_true, List.nil_append, ht]
  | cons p ps =>
    simp only [parsePieces, List.isEmpty_cons, Bool.false_eq_true, if_false, List.append_assoc,
      List.singleton_append, splitSlash_params, asPosOnly_params _ hpos]

/-- reading the rendered parameter list back the way Python does gives the parameters grouped by
    kind, each group in its own order, the extra keyword-only ones after the keyword-only group -/
theorem parse_render (sig extra : List SParam) (hvp : (ofKind .varPos sig).length ≤ 1)
    (hvk : (ofKind .varKw sig).length ≤ 1) (he : ∀ p ∈ extra, p.kind = .kwOnly) :
    parsePieces (renderSig sig extra) =
      ofKind .posOnly sig ++ ofKind .posOrKw sig ++ ofKind .varPos sig ++ (ofKind .kwOnly sig ++ extra) ++
        ofKind .varKw sig := by
  have hkey : ∀ p ∈ ofKind .kwOnly sig ++ extra, p.kind = .kwOnly :=
    fun p hp => (List.mem_append.mp hp).elim kind_of_mem_ofKind (he p)
  -- five blocks, each read back on its own
  rw [renderSig_eq, parsePieces_pos fun _ => kind_of_mem_ofKind,
    readRest_params false (ofKind .posOrKw sig) _ fun _ => kind_of_mem_ofKind,
    readRest_star _ _ (fun _ => kind_of_mem_ofKind) hvp, readRest_params,
    readRest_dstar _ (fun _ => kind_of_mem_ofKind) hvk]
  · simp only [List.append_assoc]
  · -- the side condition of the second `readRest_params`: after a non-empty keyword-only group the mode is keyword-only
    intro p hp
    rw [hkey p hp, List.isEmpty_eq_false_iff.mpr (List.ne_nil_of_mem hp), Bool.and_false]
    rfl
  · -- the side condition of `parsePieces_pos`: no `/` after the positional-only group
    exact splitSlash_none_params _ _ (splitSlash_append_none (starPiece_no_slash _ _)
      (splitSlash_none_params _ _ (splitSlash_dstar _)))

end JV
