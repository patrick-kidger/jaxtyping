/-
Values that differ only in what jaxtyping never looks at (element values of arrays) are checked
alike — for every leaf type, PyTrees included (C17).

Every level of the check (`flatList`, `leafLoop`, `checkLs`, …) uses the head of its input only
through the level below and the tail only through itself, so each step of the induction rewrites
these two (as functions of the state, where the state is bound by a `match`) and is done.
-/
import JaxVerif.Lemmas.Rollback
-- Nothing of Walks is named below. Lean proves the equation lemmas of `flat` / `flatList` in the first module that
-- rewrites with them, which is Walks; without this import they are proved a second time here.
import JaxVerif.Lemmas.Walks

namespace JV

mutual
/-- `x` and `y` are the same value up to the payload (and the recorded type-test answer, which
    `Obj.toArr` recomputes from the class) of the arrays inside -/
inductive Obj.Sim : Obj → Obj → Prop
  | int (n : Int) : Obj.Sim (.int n) (.int n)
  | str (s : String) : Obj.Sim (.str s) (.str s)
  | none : Obj.Sim .none .none
  | opaque (t : String) : Obj.Sim (.opaque t) (.opaque t)
  | arr (c : String) (a b : ArrObj) : a.dtype = b.dtype → a.shape = b.shape → Obj.Sim (.arr c a) (.arr c b)
  | tuple (xs ys : List Obj) : Obj.SimList xs ys → Obj.Sim (.tuple xs) (.tuple ys)
  | list (xs ys : List Obj) : Obj.SimList xs ys → Obj.Sim (.list xs) (.list ys)
  | dict (ks : List String) (xs ys : List Obj) : Obj.SimList xs ys → Obj.Sim (.dict ks xs) (.dict ks ys)
  | ntuple (t : String) (xs ys : List Obj) : Obj.SimList xs ys → Obj.Sim (.ntuple t xs) (.ntuple t ys)
  | custom (t : String) (f : Option Exc) (xs ys : List Obj) : Obj.SimList xs ys →
      Obj.Sim (.custom t f xs) (.custom t f ys)
inductive Obj.SimList : List Obj → List Obj → Prop
  | nil : Obj.SimList [] []
  | cons (x y : Obj) (xs ys : List Obj) : Obj.Sim x y → Obj.SimList xs ys → Obj.SimList (x :: xs) (y :: ys)
end

theorem SimList.length_eq {xs ys : List Obj} (h : Obj.SimList xs ys) : xs.length = ys.length := by
  induction xs generalizing ys with
  | nil => cases h; rfl
  | cons x xs ih => cases h with | cons _ y _ ys' _ ht => exact congrArg Nat.succ (ih ht)

theorem SimList.append {a b c d : List Obj} (h1 : Obj.SimList a b) (h2 : Obj.SimList c d) :
    Obj.SimList (a ++ c) (b ++ d) := by
  induction a generalizing b with
  | nil => cases h1; exact h2
  | cons x xs ih => cases h1 with | cons _ y _ ys hx ht => exact .cons _ _ _ _ hx (ih ht)

/-- the three answers of the checked object that `instancecheck` reads -/
theorem instancecheck_meta (c : Catch) (fl : Bool) (tp : TreePath) (a : Ann) {o₁ o₂ : ArrObj}
    (h : o₁.isInst = o₂.isInst ∧ o₁.dtype = o₂.dtype ∧ o₁.shape = o₂.shape) :
    instancecheck c fl tp a o₁ = instancecheck c fl tp a o₂ := by
  funext m
  unfold instancecheck
  rw [h.1, h.2.1, h.2.2]

theorem toArr_sim (cls : String) {x y : Obj} (h : Obj.Sim x y) :
    (x.toArr cls).isInst = (y.toArr cls).isInst ∧ (x.toArr cls).dtype = (y.toArr cls).dtype ∧
    (x.toArr cls).shape = (y.toArr cls).shape := by
  unfold Obj.toArr
  cases h with
  | arr c a b h1 h2 => exact ⟨rfl, h1, h2⟩
  | _ => exact ⟨rfl, rfl, rfl⟩

/-- a leaf predicate / leaf check that cannot tell such values apart -/
def RespectsSim (f : Obj → CState → CState × Verdict) : Prop :=
  ∀ x y st, Obj.Sim x y → f x st = f y st

theorem RespectsSim.eq {f : Obj → CState → CState × Verdict} (hf : RespectsSim f) {x y : Obj}
    (h : Obj.Sim x y) : f x = f y :=
  funext fun st => hf x y st h

/-- same state, same structure or verdict, leaves alike -/
def FlatRel (p q : CState × FlatRes) : Prop :=
  (∃ s l₁ l₂ d, p = (s, .ok l₁ d) ∧ q = (s, .ok l₂ d) ∧ Obj.SimList l₁ l₂) ∨
  (∃ s v, p = (s, .raised v) ∧ q = (s, .raised v))

def FlatListRel : CState × FlatListRes → CState × FlatListRes → Prop
  | (s₁, .ok l₁ d₁), (s₂, .ok l₂ d₂) => s₁ = s₂ ∧ d₁ = d₂ ∧ Obj.SimList l₁ l₂
  | (s₁, .raised v₁), (s₂, .raised v₂) => s₁ = s₂ ∧ v₁ = v₂
  | _, _ => False

theorem FlatListRel.cases {p q : CState × FlatListRes} (h : FlatListRel p q) :
    (∃ s l₁ l₂ ds, p = (s, .ok l₁ ds) ∧ q = (s, .ok l₂ ds) ∧ Obj.SimList l₁ l₂) ∨
    (∃ s v, p = (s, .raised v) ∧ q = (s, .raised v)) := by
  obtain ⟨s₁, r₁⟩ := p
  obtain ⟨s₂, r₂⟩ := q
  cases r₁ <;> cases r₂
  · obtain ⟨rfl, rfl, hl⟩ := h
    exact .inl ⟨_, _, _, _, rfl, rfl, hl⟩
  · exact h.elim
  · exact h.elim
  · obtain ⟨rfl, rfl⟩ := h
    exact .inr ⟨_, _, rfl, rfl⟩

theorem wrapNode_rel (k : Kind) {p q : CState × FlatListRes} (h : FlatListRel p q) :
    FlatRel (wrapNode k p) (wrapNode k q) := by
  obtain ⟨s, l₁, l₂, ds, rfl, rfl, hl⟩ | ⟨s, v, rfl, rfl⟩ := h.cases
  · exact .inl ⟨_, _, _, _, rfl, rfl, hl⟩
  · exact .inr ⟨_, _, rfl, rfl⟩

mutual
theorem flat_sim (f : Obj → CState → CState × Verdict) (hf : RespectsSim f) (u : Bool) :
    ∀ (x y : Obj) (st : CState), Obj.Sim x y → FlatRel (flat f u x st) (flat f u y st)
  | x, y, st, h => by
    rw [flat, flat, hf.eq h]
    generalize (if u then f y st else (st, Verdict.F)) = r
    obtain ⟨st', v⟩ := r
    have leaf : FlatRel (st', .ok [x] .leaf) (st', .ok [y] .leaf) :=
      .inl ⟨_, _, _, _, rfl, rfl, .cons _ _ _ _ h .nil⟩
    cases v with
    | T => exact leaf
    | ANN => exact .inr ⟨_, _, rfl, rfl⟩
    | EXC e => exact .inr ⟨_, _, rfl, rfl⟩
    | F =>
      cases h with
      | none => exact .inl ⟨_, _, _, _, rfl, rfl, .nil⟩
      | tuple xs ys hl | list xs ys hl | dict _ xs ys hl | ntuple _ xs ys hl =>
        exact wrapNode_rel _ (flatList_sim f hf u xs ys st' hl)
      | custom t fault xs ys hl =>
        cases fault with
        | some e => exact .inr ⟨_, _, rfl, rfl⟩
        | none => exact wrapNode_rel _ (flatList_sim f hf u xs ys st' hl)
      | _ => exact leaf
theorem flatList_sim (f : Obj → CState → CState × Verdict) (hf : RespectsSim f) (u : Bool) :
    ∀ (xs ys : List Obj) (st : CState), Obj.SimList xs ys →
      FlatListRel (flatList f u xs st) (flatList f u ys st)
  | [], ys, st, h => by
    cases h
    exact ⟨rfl, rfl, .nil⟩
  | x :: xs, ys, st, h => by
    cases h with
    | cons _ y _ ys hx ht =>
      rw [flatList, flatList]
      obtain ⟨s, l₁, l₂, d, h₁, h₂, hl⟩ | ⟨s, v, h₁, h₂⟩ := flat_sim f hf u x y st hx
      · rw [h₁, h₂]
        obtain ⟨s', m₁, m₂, ds, e₁, e₂, hm⟩ | ⟨s', w, e₁, e₂⟩ := (flatList_sim f hf u xs ys s ht).cases
        · simp only [e₁, e₂]
          exact ⟨rfl, rfl, SimList.append hl hm⟩
        · simp only [e₁, e₂]
          exact ⟨rfl, rfl⟩
      · rw [h₁, h₂]
        exact ⟨rfl, rfl⟩
end

theorem leafLoop_sim (sk : Skel) (f : Obj → CState → CState × Verdict) (hf : RespectsSim f)
    (S : Option String) (xs ys : List Obj) (h : Obj.SimList xs ys) :
    leafLoop sk f S xs = leafLoop sk f S ys := by
  induction xs generalizing ys with
  | nil =>
    cases h
    rfl
  | cons x xs ih =>
    cases h with
    | cons _ y _ ys hx ht =>
      funext i st
      simp only [leafLoop, hf.eq hx, ih ys ht]

theorem pytreeCore_sim (sk : Skel) (f : Obj → CState → CState × Verdict) (hf : RespectsSim f)
    (leafAny : Bool) (S : Option String) (x y : Obj) (st : CState) (h : Obj.Sim x y) :
    pytreeCore sk f leafAny S x st = pytreeCore sk f leafAny S y st := by
  unfold pytreeCore
  obtain ⟨s, l₁, l₂, d, h₁, h₂, hl⟩ | ⟨s, v, h₁, h₂⟩ :=
    flat_sim f hf (!leafAny) x y { st with flatten := true } h
  · have hc : RespectsSim (if leafAny = true then fun _ s => (s, Verdict.T) else f) := by
      split
      · exact fun _ _ _ _ => rfl
      · exact hf
    rw [h₁, h₂]
    dsimp only
    rw [leafLoop_sim sk _ hc S l₁ l₂ hl]
  · rw [h₁, h₂]

theorem pytreeInstancecheck_sim (sk : Skel) (f : Obj → CState → CState × Verdict)
    (hf : RespectsSim f) (leafAny : Bool) (S : Option String) (x y : Obj) (st : CState)
    (h : Obj.Sim x y) :
    pytreeInstancecheck sk f leafAny S x st = pytreeInstancecheck sk f leafAny S y st := by
  by_cases hx : x = .none
  · subst hx
    cases h
    rfl
  · have hy : y ≠ .none := fun hy => hx (by subst hy; cases h; rfl)
    rw [pytreeInstancecheck_eq hx, pytreeInstancecheck_eq hy,
      pytreeCore_sim sk f hf leafAny S x y _ h]

mutual
/-- **every leaf type**: values that differ only in array payloads are checked alike — same
    verdict, same resulting state -/
theorem checkL_sim (sk : Skel) : ∀ (l : LType) (x y : Obj) (st : CState), Obj.Sim x y →
    checkL sk l x st = checkL sk l y st
  | .any, x, y, st, h => rfl
  | .barePytree, x, y, st, h => rfl
  | .int, x, y, st, h => by cases h <;> rfl
  | .str, x, y, st, h => by cases h <;> rfl
  | .noneT, x, y, st, h => by cases h <;> rfl
  | .user acc faults, x, y, st, h => by cases h <;> rfl
  | .arr cls a, x, y, st, h => by
    unfold checkL
    rw [instancecheck_meta _ _ _ _ (toArr_sim cls h)]
  | .tuple ts, x, y, st, h => by
    unfold checkL
    cases h with
    | tuple xs ys hl | ntuple _ xs ys hl =>
      simp only [SimList.length_eq hl, checkLs_sim sk ts xs ys st hl]
    | _ => rfl
  | .union ts, x, y, st, h => checkLU_sim sk ts x y st h
  | .pytree l s, x, y, st, h =>
    pytreeInstancecheck_sim sk (checkL sk l) (checkL_sim sk l) _ s x y st h
theorem checkLs_sim (sk : Skel) : ∀ (ts : List LType) (xs ys : List Obj) (st : CState),
    Obj.SimList xs ys → checkLs sk ts xs st = checkLs sk ts ys st
  | [], _, _, _, _ => by rw [checkLs, checkLs]
  | t :: ts, _, _, st, h => by
    cases h with
    | nil => rfl
    | cons x y xs ys hx ht =>
    simp only [checkLs, checkL_sim sk t x y st hx, fun st1 => checkLs_sim sk ts xs ys st1 ht]
theorem checkLU_sim (sk : Skel) : ∀ (ts : List LType) (x y : Obj) (st : CState),
    Obj.Sim x y → checkLU sk ts x st = checkLU sk ts y st
  | [], _, _, _, _ => rfl
  | t :: ts, x, y, st, h => by
    simp only [checkLU, checkL_sim sk t x y st h, fun st1 => checkLU_sim sk ts x y st1 h]
end

end JV
