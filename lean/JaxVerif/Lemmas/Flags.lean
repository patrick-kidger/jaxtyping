/-
The two transient flags (flatten mode, `?`-leaf label). After any check they are what they were
before or cleared (`FlagsLe`, carried through the walks by the lemmas of Lemmas/Walks.lean); so a
thread state at rest (`Rest`) is at rest after every call, block and program (C12).
Core Lean only.
-/
import JaxVerif.Lemmas.CallStep
import JaxVerif.Lemmas.Walks

namespace JV

def FlagsLe (a b : CState) : Prop :=
  (b.flatten = a.flatten ∨ b.flatten = false) ∧ (b.tp = a.tp ∨ b.tp = none)

theorem keptOr_trans {α : Type} {c x y z : α} (h1 : y = x ∨ y = c) (h2 : z = y ∨ z = c) :
    z = x ∨ z = c :=
  h2.elim (fun h => h ▸ h1) Or.inr

theorem FlagsLe.refl (a : CState) : FlagsLe a a := ⟨Or.inl rfl, Or.inl rfl⟩

theorem FlagsLe.trans {a b c : CState} (h1 : FlagsLe a b) (h2 : FlagsLe b c) : FlagsLe a c :=
  ⟨keptOr_trans h1.1 h2.1, keptOr_trans h1.2 h2.2⟩

/-- the invariant a leaf check has to satisfy -/
def LeafOK (f : Obj → CState → CState × Verdict) : Prop := ∀ x st, FlagsLe st (f x st).1

theorem flatList_le (f : Obj → CState → CState × Verdict) (hf : LeafOK f) (u : Bool) :
    ∀ (xs : List Obj) (st : CState), FlagsLe st (flatList f u xs st).1 :=
  flatList_rel FlagsLe.refl FlagsLe.trans hf u

theorem pytreeInstancecheck_le (sk : Skel) (hs : sk.Good) (f : Obj → CState → CState × Verdict)
    (hf : LeafOK f) (leafAny : Bool) (S : Option String) (x : Obj) (st : CState) :
    FlagsLe st (pytreeInstancecheck sk f leafAny S x st).1 := by
  refine pytreeInstancecheck_rel (Rf := fun a b => b = a ∨ b = false)
    (Rt := fun a b => b = a ∨ b = none) (fun _ => Or.inl rfl) keptOr_trans (fun _ => Or.inl rfl)
    keptOr_trans hs hf (fun _ => ?_) (fun _ _ => Or.inr rfl) leafAny x st
  split
  · exact Or.inl rfl
  · exact Or.inr rfl

mutual
theorem checkL_le (sk : Skel) (hs : sk.Good) : ∀ (l : LType) (x : Obj) (st : CState),
    FlagsLe st (checkL sk l x st).1
  | .any, _, st | .int, _, st | .str, _, st | .noneT, _, st | .barePytree, _, st => FlagsLe.refl st
  | .user acc faults, x, st => checkL_user_rel FlagsLe.refl sk acc faults x st
  | .arr cls a, x, st => checkL_arr_rel FlagsLe.refl (fun st _ => FlagsLe.refl st) sk cls a x st
  | .tuple ts, x, st => checkL_tuple_rel FlagsLe.refl FlagsLe.trans sk ts (checkL_mem_le sk hs ts) x st
  | .union ts, x, st => checkLU_rel FlagsLe.refl FlagsLe.trans sk ts (checkL_mem_le sk hs ts) x st
  | .pytree l s, x, st => pytreeInstancecheck_le sk hs _ (checkL_le sk hs l) _ s x st
theorem checkL_mem_le (sk : Skel) (hs : sk.Good) : ∀ (ts : List LType), ∀ t ∈ ts, ∀ x st,
    FlagsLe st (checkL sk t x st).1
  | t :: _, _, .head _ => checkL_le sk hs t
  | _ :: ts, t, .tail _ h => checkL_mem_le sk hs ts t h
end

theorem checkLs_le (sk : Skel) (hs : sk.Good) : ∀ (ts : List LType) (xs : List Obj) (st : CState),
    FlagsLe st (checkLs sk ts xs st).1 :=
  fun ts => checkLs_rel FlagsLe.refl FlagsLe.trans sk ts (fun t _ => checkL_le sk hs t)

theorem checkLU_le (sk : Skel) (hs : sk.Good) : ∀ (ts : List LType) (x : Obj) (st : CState),
    FlagsLe st (checkLU sk ts x st).1 :=
  fun ts => checkLU_rel FlagsLe.refl FlagsLe.trans sk ts (fun t _ => checkL_le sk hs t)

/-- at rest: flatten mode off, no `?`-leaf label -/
def Rest (st : TState) : Prop := st.flatten = false ∧ st.tp = none

theorem onTop_rest (sk : Skel) (hs : sk.Good) (l : LType) (x : Obj) (st : TState) (h : Rest st) :
    Rest (onTop st (checkL sk l x)).1 := by
  have s := onTop_spec st (checkL sk l x)
  obtain ⟨hfl, htp⟩ := checkL_le sk hs l x st.view
  unfold Rest
  rw [s.tp, s.flatten]
  exact ⟨hfl.elim (fun e => e.trans h.1) id, htp.elim (fun e => e.trans h.2) id⟩

theorem popAfter_rest {b : Bool} {o : CallOutcome} {st : TState} (h : Rest st) :
    Rest (popAfter b o st) := by
  unfold popAfter
  split <;> exact h

section
variable {sk : Skel} {w : WrapSkel} {k : CallKind} {ps : List Param} {ret : Option (LType × Obj)}
  {bindOk noTc : Bool} {B : TState → TState × List Obs} {e : Exit}
  (hB : ∀ st, Rest st → Rest (B st).1) {st : TState} (h : Rest st)
include hB h

theorem callStep_rest (hs : sk.Good) : Rest (callStep sk w k ps ret bindOk noTc B e st).1 := by
  rw [callStep_eq]
  by_cases hk : k = .newStyle ∧ (w.disableTestFirst && (st.disable || noTc)) = true
  · rw [if_pos hk]
    cases bindOk
    · exact h
    · exact hB st h
  · rw [if_neg hk]
    cases bindOk
    · cases w.bindBeforePush k <;> exact h
    · exact popAfter_rest (inside_keeps (onTop_rest sk hs) hB h)

theorem ctxStep_rest : Rest (ctxStep w B e st).1 :=
  popAfter_rest (hB (pushFrame {} st) h)
end

mutual
theorem runProg_rest (sk : Skel) (w : WrapSkel) (hs : sk.Good) : ∀ (p : Prog) (st : TState),
    Rest st → Rest (runProg sk w p st).1
  | .check l x, st, h => by rw [runProg_check_eq]; exact onTop_rest sk hs l x st h
  | .print, st, h => by rw [runProg_print_eq]; exact h
  | .setDisable b, st, h => by rw [runProg_setDisable_eq]; exact h
  | .ctx body e, st, h => by
    rw [runProg_ctx_eq]
    exact ctxStep_rest (runProgs_rest sk w hs body) h
  | .call k ps ret bindOk noTc body e, st, h => by
    rw [runProg_call_eq]
    exact callStep_rest (runProgs_rest sk w hs body) h hs
theorem runProgs_rest (sk : Skel) (w : WrapSkel) (hs : sk.Good) : ∀ (ps : List Prog) (st : TState),
    Rest st → Rest (runProgs sk w ps st).1
  | [], _, h => h
  | p :: ps, st, h => by
    rw [runProgs_cons]
    exact runProgs_rest sk w hs ps _ (runProg_rest sk w hs p st h)
end

end JV
