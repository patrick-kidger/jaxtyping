/-
Non-interference of threads when every storage cell is thread-local (C06).
-/
import JaxVerif.Model.Threads

namespace JV

variable {Obs : Type}

theorem Kinds.eq_of_allLocal {k : Kinds} (hk : k.allLocal = true) : k = ⟨true, true, true⟩ := by
  obtain ⟨a, b, c⟩ := k
  simp only [Kinds.allLocal, Bool.and_eq_true] at hk
  obtain ⟨⟨rfl, rfl⟩, rfl⟩ := hk
  rfl

theorem view_allLocal {k : Kinds} (hk : k.allLocal = true) (w : World) (t : Nat) :
    w.view k t = w.locals t := by
  cases Kinds.eq_of_allLocal hk
  rfl

theorem write_allLocal_self {k : Kinds} (hk : k.allLocal = true) (w : World) (t : Nat) (c : Cells) :
    (w.write k t c).locals t = c := by
  cases Kinds.eq_of_allLocal hk
  exact if_pos rfl

theorem write_other (k : Kinds) (w : World) {t u : Nat} (c : Cells) (h : u ≠ t) :
    (w.write k t c).locals u = w.locals u := by
  simp [World.write, h]

/-- running only `t`: `n` steps of `t` from its own cells, no world needed -/
def soloRun (prog : List (Step Obs)) : Nat → Cells × Nat × List Obs → Cells × Nat × List Obs
  | 0, s => s
  | n + 1, (c, pc, tr) =>
    match prog[pc]? with
    | none => soloRun prog n (c, pc, tr)
    | some f => let (c', o) := f c; soloRun prog n (c', pc + 1, tr ++ o)

theorem soloRun_succ (prog : List (Step Obs)) (n : Nat) (s : Cells × Nat × List Obs) :
    soloRun prog (n + 1) s = soloRun prog n (soloRun prog 1 s) := by
  obtain ⟨c, pc, tr⟩ := s
  simp only [soloRun]
  cases prog[pc]? <;> rfl

/-- **frame**: a step of another thread changes nothing thread `t` can observe -/
theorem stepRun_other (k : Kinds) (progs : Nat → List (Step Obs)) (r : Run Obs) {t u : Nat}
    (h : t ≠ u) : (stepRun k progs r u).viewOf t = r.viewOf t := by
  unfold stepRun
  cases (progs u)[r.pc u]? with
  | none => rfl
  | some f =>
    simp only [Run.viewOf]
    rw [write_other k r.w _ h]
    simp [h]

/-- **determinism**: with thread-local cells a step of `t` itself is a step of `t` running alone on what it observes -/
theorem stepRun_self {k : Kinds} (hk : k.allLocal = true) (progs : Nat → List (Step Obs))
    (r : Run Obs) (t : Nat) : (stepRun k progs r t).viewOf t = soloRun (progs t) 1 (r.viewOf t) := by
  unfold stepRun
  simp only [Run.viewOf, soloRun]
  cases (progs t)[r.pc t]? with
  | none => rfl
  | some f => simp only [view_allLocal hk, write_allLocal_self hk, if_true]

/-- **non-interference**: what thread `t` observes of a run under ANY schedule is what it observes running alone
    for as many steps as the schedule gives it -/
theorem runSched_viewOf {k : Kinds} (hk : k.allLocal = true) (progs : Nat → List (Step Obs)) (t : Nat) :
    ∀ (sched : List Nat) (r : Run Obs),
      (runSched k progs r sched).viewOf t = soloRun (progs t) (sched.count t) (r.viewOf t)
  | [], _ => rfl
  | u :: rest, r => by
    rw [runSched, List.foldl_cons, ← runSched, runSched_viewOf hk progs t rest, List.count_cons]
    by_cases hu : u = t
    · subst hu
      rw [stepRun_self hk, beq_self_eq_true, if_pos rfl]
      exact (soloRun_succ ..).symm
    · rw [stepRun_other k progs r (Ne.symm hu), if_neg (by simpa using hu), Nat.add_zero]

end JV
