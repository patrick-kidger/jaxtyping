/-
For C16 (`?` axes are per-leaf-position axes of exactly one structured PyTree): with re-entrant flags every check
hands both transient flags back exactly (an instance of Lemmas/Walks); the frame property of `_check_shape` (a
walk at `?`-position `tp` reads and writes only plain keys and keys of that position), as a relation between two runs
from memos that agree on the visible keys (`WalkRel`: the runs end alike, rejections and exceptions included, which
is why the lemmas of Lemmas/Array about accepted walks do not give it); lists cut at a separator, for the
injectivity of rendered keys.
Core Lean only.
-/
import JaxVerif.Lemmas.Array
import JaxVerif.Lemmas.Walks

namespace JV

/-! ### both flags pass through flag-transparent leaf types exactly -/

def CFlagsEq (a b : CState) : Prop := b.tp = a.tp ∧ b.flatten = a.flatten

theorem CFlagsEq.refl (a : CState) : CFlagsEq a a := ⟨rfl, rfl⟩

theorem CFlagsEq.trans {a b c : CState} (h1 : CFlagsEq a b) (h2 : CFlagsEq b c) : CFlagsEq a c :=
  ⟨h2.1.trans h1.1, h2.2.trans h1.2⟩

/-- a leaf check that hands both transient flags back as it found them (as `LeafOK` of Lemmas/Flags with `FlagsLe`,
    `FlattenKept` of Lemmas/TreeDsl for the flatten flag alone) -/
def LeafEq (f : Obj → CState → CState × Verdict) : Prop := ∀ x st, CFlagsEq st (f x st).1

theorem flatList_flags (f : Obj → CState → CState × Verdict) (hf : LeafEq f) (u : Bool) :
    ∀ (xs : List Obj) (st : CState), CFlagsEq st (flatList f u xs st).1 :=
  flatList_rel CFlagsEq.refl CFlagsEq.trans hf u

/-- the instance of `pytreeInstancecheck_rel` for equality of both flags: with re-entrant flags a structure-less
    PyTree hands both through exactly (`And.symm`: `FlagRel` names the flatten flag first, `CFlagsEq` the label) -/
theorem pytreeInstancecheck_flags (sk : Skel)
    (hg : sk.Good ∧ sk.treepathGuarded = true ∧ sk.flattenRestores = true)
    (f : Obj → CState → CState × Verdict) (hf : LeafEq f) (leafAny : Bool) (x : Obj)
    (st : CState) : CFlagsEq st (pytreeInstancecheck sk f leafAny none x st).1 :=
  And.symm <| pytreeInstancecheck_rel (Rf := fun a b => b = a) (Rt := fun a b => b = a) (S := none)
    (fun _ => rfl) (fun h1 h2 => h2.trans h1) (fun _ => rfl) (fun h1 h2 => h2.trans h1) hg.1
    (fun x st => And.symm (hf x st)) (fun _ => by rw [hg.2.2]; rfl)
    (fun c => by rw [hg.2.1] at c; cases c) leafAny x st

theorem checkL_flags (sk : Skel)
    (hg : sk.Good ∧ sk.treepathGuarded = true ∧ sk.flattenRestores = true)
    (l : LType) (hl : FlagTransparent l) (x : Obj) (st : CState) :
    CFlagsEq st (checkL sk l x st).1 := by
  induction hl generalizing x st with
  | any | int | str | noneT | bare => exact CFlagsEq.refl st
  | user acc f => exact checkL_user_rel CFlagsEq.refl sk acc f x st
  | arr cls a => exact checkL_arr_rel CFlagsEq.refl (fun st _ => CFlagsEq.refl st) sk cls a x st
  | tuple ts _ ih => exact checkL_tuple_rel CFlagsEq.refl CFlagsEq.trans sk ts ih x st
  | union ts _ ih => exact checkLU_rel CFlagsEq.refl CFlagsEq.trans sk ts ih x st
  | pytree l _ ih => exact pytreeInstancecheck_flags sk hg _ (fun y s => ih y s) _ x st

/-! ### the frame property of `_check_shape` -/

/-- two association lists agree on the keys visible at `?`-position `tp` -/
def Agree {β : Type} (tp : TreePath) (a b : List (Key × β)) : Prop :=
  ∀ k, Key.relevant tp k → a.lookup k = b.lookup k

/-- `a'` binds the keys invisible at `tp` as `a` does -/
def Keeps {β : Type} (tp : TreePath) (a a' : List (Key × β)) : Prop :=
  ∀ k, ¬ Key.relevant tp k → a'.lookup k = a.lookup k

theorem Keeps.refl {β : Type} (tp : TreePath) (a : List (Key × β)) : Keeps tp a a := fun _ _ => rfl

theorem Keeps.trans {β : Type} {tp : TreePath} {a b c : List (Key × β)} (h1 : Keeps tp a b)
    (h2 : Keeps tp b c) : Keeps tp a c := fun k hk => (h2 k hk).trans (h1 k hk)

theorem keyOf_relevant {tp : TreePath} {x : String} {isTp : Bool} {key : Key}
    (h : keyOf tp x isTp = .ok key) : Key.relevant tp key := by
  cases isTp with
  | false =>
    simp only [keyOf, Bool.false_eq_true, if_false, Res.ok.injEq] at h
    subst h
    trivial
  | true =>
    cases tp with
    | none => simp [keyOf] at h
    | some it =>
      simp only [keyOf, if_true, Res.ok.injEq] at h
      subst h
      rfl

/-- binding a visible key, in both memos alike, keeps them in agreement and touches no invisible key; `ha`, `hb`: what
    a lookup finds afterwards (`lookup_cons_eq`, `lookup_setVar`) -/
theorem Agree.bind {β : Type} {tp : TreePath} {a b a' b' : List (Key × β)} {key : Key} {v : β}
    (h : Agree tp a b) (hrel : Key.relevant tp key)
    (ha : ∀ k, a'.lookup k = if k = key then some v else a.lookup k)
    (hb : ∀ k, b'.lookup k = if k = key then some v else b.lookup k) : Agree tp a' b' ∧ Keeps tp a a' :=
  ⟨fun k hk => by rw [ha, hb, h k hk], fun k hk => by rw [ha, if_neg fun e : k = key => hk (e ▸ hrel)]⟩

theorem evalCore_frame {σ₁ σ₂ : Single} (h : ∀ x, σ₁.lookup (.plain x) = σ₂.lookup (.plain x)) (args : Args)
    (e : Expr) : e.evalCore args σ₁ = e.evalCore args σ₂ := by
  -- each memo extends the other on the plain keys
  rcases evalCore_mono (args := args) (fun x n hx => h x ▸ hx) e with h12 | h12
  · rcases evalCore_mono (args := args) (fun x n hx => (h x).symm ▸ hx) e with h21 | h21
    · rw [h12, h21]
    · exact h21.symm
  · exact h12

theorem eval_frame {tp : TreePath} {σ₁ σ₂ : Single} (h : Agree tp σ₁ σ₂) (args : Args) (e : Expr) :
    e.eval args σ₁ = e.eval args σ₂ := by
  unfold Expr.eval
  rw [evalCore_frame (fun x => h (.plain x) trivial) args e]

/-- two walks end alike: both accept, with results related by `R`, or both stop in the same way (the memo an
    exception leaves behind is not compared) -/
def WalkRel {α : Type} (R : α → α → Prop) : Walk α → Walk α → Prop
  | .ok a, .ok b => R a b
  | .fail, .fail => True
  | .annErr, .annErr => True
  | .exc e₁ _, .exc e₂ _ => e₁ = e₂
  | _, _ => False

/-- of the sixteen pairs of outcomes the four in which the walks end alike -/
@[elab_as_elim]
theorem WalkRel.elim {α : Type} {R : α → α → Prop} {motive : Walk α → Walk α → Prop} {w₁ w₂ : Walk α}
    (h : WalkRel R w₁ w₂) (ok : ∀ a b, R a b → motive (.ok a) (.ok b)) (fail : motive .fail .fail)
    (annErr : motive .annErr .annErr) (exc : ∀ e l₁ l₂, motive (.exc e l₁) (.exc e l₂)) : motive w₁ w₂ := by
  cases w₁ <;> cases w₂
  case ok.ok => exact ok _ _ h
  case fail.fail => exact fail
  case annErr.annErr => exact annErr
  case exc.exc => cases h; exact exc _ _ _
  all_goals exact False.elim h

theorem WalkRel.mono {α : Type} {R Q : α → α → Prop} (hRQ : ∀ a b, R a b → Q a b) {w₁ w₂ : Walk α}
    (h : WalkRel R w₁ w₂) : WalkRel Q w₁ w₂ :=
  h.elim hRQ trivial trivial fun _ _ _ => rfl

/-- two walks over single-axis memos, the first from `σ₁`: accepted results agree on the visible keys, and the first
    has bound no other key -/
def DimRel (tp : TreePath) (σ₁ : Single) : Walk Single → Walk Single → Prop :=
  WalkRel fun a b => Agree tp a b ∧ Keeps tp σ₁ a

section
variable {tp : TreePath} {σ₁ σ₂ : Single} (h : Agree tp σ₁ σ₂) (args : Args)
include h

theorem checkDim_frame (d : Dim) (n : Nat) :
    DimRel tp σ₁ (checkDim tp args σ₁ d n) (checkDim tp args σ₂ d n) := by
  have hok : DimRel tp σ₁ (.ok σ₁) (.ok σ₂) := ⟨h, Keeps.refl tp σ₁⟩
  cases d with
  | anon => exact hok
  | fixed k b =>
    by_cases hb : b = true ∧ n = 1
    · rw [checkDim_skip hb, checkDim_skip hb]; exact hok
    · rw [checkDim_fixed hb, checkDim_fixed hb]
      split
      · exact hok
      · trivial
  | sym e b =>
    by_cases hb : b = true ∧ n = 1
    · rw [checkDim_skip hb, checkDim_skip hb]; exact hok
    · rw [checkDim_sym hb, checkDim_sym hb, eval_frame h args e]
      cases e.eval args σ₂ with
      | ok v =>
        dsimp only
        split
        · exact hok
        · trivial
      | fail => trivial
      | annErr => trivial
      | exc x => exact rfl
  | named x b t =>
    by_cases hb : b = true ∧ n = 1
    · rw [checkDim_skip hb, checkDim_skip hb]; exact hok
    · rcases keyOf_cases tp x t with ⟨key, hk⟩ | ⟨hk, _, _⟩
      · have hrel := keyOf_relevant hk
        rw [checkDim_named_ok hb hk, checkDim_named_ok hb hk, h key hrel]
        cases σ₂.lookup key with
        | none => exact h.bind hrel (fun k => lookup_cons_eq k key n σ₁) (fun k => lookup_cons_eq k key n σ₂)
        | some m =>
          dsimp only
          split
          · exact hok
          · trivial
      · rw [checkDim_named_ann hb hk, checkDim_named_ann hb hk]
        trivial

theorem checkDims_frame (l : List (Dim × Nat)) :
    DimRel tp σ₁ (checkDims tp args σ₁ l) (checkDims tp args σ₂ l) := by
  induction l generalizing σ₁ σ₂ with
  | nil => exact ⟨h, Keeps.refl tp σ₁⟩
  | cons p rest ih =>
    rw [checkDims_cons, checkDims_cons]
    refine (checkDim_frame h args p.1 p.2).elim (fun a b h1 => ?_) trivial trivial fun _ _ _ => rfl
    exact (ih h1.1).mono fun _ _ h2 => ⟨h2.1, h1.2.trans h2.2⟩

end

/-- the frame property of `_check_shape`: from memos that agree on the visible keys the two walks end alike, in memos
    that agree on them again, and the first has bound no other key -/
theorem checkShape_frame_rel {tp : TreePath} {σ₁ σ₂ : Single} {ν₁ ν₂ : Variadic} (hσ : Agree tp σ₁ σ₂)
    (hν : Agree tp ν₁ ν₂) (args : Args) (sh : Shape) (shape : List Nat) :
    WalkRel (fun a b => (Agree tp a.1 b.1 ∧ Agree tp a.2 b.2) ∧ Keeps tp σ₁ a.1 ∧ Keeps tp ν₁ a.2)
      (checkShape tp args sh shape σ₁ ν₁) (checkShape tp args sh shape σ₂ ν₂) := by
  unfold checkShape
  cases sh.var with
  | none =>
    dsimp only
    split
    · trivial
    · refine (checkDims_frame hσ args (sh.pre.zip shape)).elim (fun a b h1 => ?_) trivial trivial fun _ _ _ => rfl
      exact ⟨⟨h1.1, hν⟩, h1.2, Keeps.refl tp ν₁⟩
  | some vs =>
    obtain ⟨v, suf⟩ := vs
    dsimp only
    split
    · trivial
    · refine (checkDims_frame hσ args (sh.pre.zip (shape.take sh.pre.length))).elim (fun a b h1 => ?_)
        trivial trivial fun _ _ _ => rfl
      dsimp only
      refine (checkDims_frame h1.1 args (suf.zip (shape.drop (shape.length - suf.length)))).elim
        (fun c d h2 => ?_) trivial trivial fun _ _ _ => rfl
      dsimp only
      have hk : Keeps tp σ₁ c := h1.2.trans h2.2
      cases v with
      | anonVar => exact ⟨⟨h2.1, hν⟩, hk, Keeps.refl tp ν₁⟩
      | namedVar x bb isTp =>
        dsimp only
        rcases keyOf_cases tp x isTp with ⟨key, hkey⟩ | ⟨hkey, _, _⟩
        · have hrel := keyOf_relevant hkey
          rw [hkey]
          dsimp only
          rw [hν key hrel]
          generalize vstep (ν₂.lookup key) bb _ = r
          cases r with
          | none => trivial
          | some st =>
            have hset := hν.bind hrel (fun k => lookup_setVar key st k ν₁) (fun k => lookup_setVar key st k ν₂)
            exact ⟨⟨h2.1, hset.1⟩, hk, hset.2⟩
        · rw [hkey]
          trivial

/-! ### lists cut at a separator (for `C16_keys_rendered`: the rendered keys are distinct) -/

theorem render_leaf_toList (i : Nat) (t x : String) :
    (Key.leaf i t x).render.toList =
      "(Leaf ".toList ++ (Nat.toDigits 10 i ++ (" in structure ".toList ++ (t.toList ++ (") ".toList ++ x.toList)))) := by
  simp only [Key.render, toString, String.toList_append, Nat.toList_repr, List.append_assoc]

theorem append_sep_inj {α : Type} {c : α} {l₁ l₂ r₁ r₂ : List α} (h1 : c ∉ l₁) (h2 : c ∉ l₂)
    (h : l₁ ++ c :: r₁ = l₂ ++ c :: r₂) : l₁ = l₂ ∧ r₁ = r₂ := by
  induction l₁ generalizing l₂ with
  | nil =>
    cases l₂ with
    | nil => exact ⟨rfl, (List.cons.inj h).2⟩
    | cons b l₂ => exact absurd (List.mem_cons.mpr (.inl (List.cons.inj h).1)) h2
  | cons a l₁ ih =>
    cases l₂ with
    | nil => exact absurd (List.mem_cons.mpr (.inl (List.cons.inj h).1.symm)) h1
    | cons b l₂ =>
      obtain ⟨e, ht⟩ := List.cons.inj h
      obtain ⟨hl, hr⟩ := ih (fun hc => h1 (List.mem_cons_of_mem _ hc)) (fun hc => h2 (List.mem_cons_of_mem _ hc)) ht
      exact ⟨by rw [e, hl], hr⟩

theorem toDigits_inj {i j : Nat} (h : Nat.toDigits 10 i = Nat.toDigits 10 j) : i = j := by
  have := congrArg (fun l => Nat.ofDigitChars 10 l 0) h
  simpa using this

theorem space_not_in_toDigits (i : Nat) : ' ' ∉ Nat.toDigits 10 i := fun h => by
  have := Nat.isDigit_of_mem_toDigits (by decide) (by decide) h
  exact absurd this (by decide)

theorem ident_head {x : String} (h : x = "" ∨ isIdentStr x = true) : ∀ r, x.toList ≠ '(' :: r := by
  intro r hx
  rcases h with rfl | h
  · simp at hx
  · unfold isIdentStr at h
    rw [hx] at h
    simp [isIdentifier, isAlpha] at h

/-- a plain key (an identifier, or empty) never renders like a leaf key, which begins with '(' -/
theorem render_plain_ne_leaf {x : String} (hx : x = "" ∨ isIdentStr x = true) (j : Nat) (u y : String) :
    (Key.plain x).render ≠ (Key.leaf j u y).render :=
  fun h => ident_head hx _ ((congrArg String.toList h).trans (render_leaf_toList j u y))

end JV
