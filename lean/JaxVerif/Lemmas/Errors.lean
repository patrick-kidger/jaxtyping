/-
For C13 and C07: the one-at-a-time re-check of `_get_problem_arg` blames the parameter at which
the parameter pass stopped, and what the caller of an enabled new-style call sees, by the verdict of the
parameter pass.
Core Lean only.
-/
import JaxVerif.Lemmas.Calls
import JaxVerif.Lemmas.CallStep

namespace JV

/-- the pass stopped with False in the context `M`: the re-check from `M` accepts, without effect, every parameter
    the pass accepted (`M` extends the context each of them produced) and stops at the same one -/
theorem problemArg_of_stop {sk : Skel} {rest : List Memo} {tpv : TreePath} {dis : Bool}
    {ps : List Param} (hps : ∀ p ∈ ps, ∃ cls a, p.ty = .arr cls a) {m : Memo} {st2 : TState}
    {x : Option String} (h : checkParams sk ps (topState m rest tpv dis) = (st2, .F, x)) :
    ∃ M, st2 = topState M rest tpv dis ∧ MemoLe m M ∧
      problemArg sk ps (topState M rest tpv dis) = (topState M rest tpv dis, .inl x) := by
  induction ps generalizing m with
  | nil => cases h
  | cons p ps ih =>
    obtain ⟨cls, a, hty⟩ := hps p (by simp)
    have hon := onTop_param sk p cls a hty
    rw [checkParams, hon] at h
    cases hi : instancecheck sk.arrayCatch false tpv a (p.val.toArr cls) m with
    | mk v m1 =>
      rw [hi] at h
      cases v with
      | T =>
        obtain ⟨M, hst, hle, hpa⟩ := ih (fun q hq => hps q (by simp [hq])) h
        refine ⟨M, hst, (instancecheck_mono hi).trans hle, ?_⟩
        rw [problemArg, hon, instancecheck_stable hi hle]
        exact hpa
      | F =>
        cases h
        obtain rfl : m1 = m := by rw [← instancecheck_fail_restores (m := m) (.inl (by rw [hi])), hi]
        refine ⟨m1, rfl, .refl _, ?_⟩
        rw [problemArg, hon, hi]
      | ANN => cases h
      | EXC e => cases h

/-- what a TypeCheckError lists in front of the outcome: nothing, or the bindings -/
def TceTail (tail : List Obs) : Prop := tail = [] ∨ ∃ m, tail = [.tceBindings m]

theorem count_bodyStart_tail (tail : List Obs) (o : CallOutcome) (h : TceTail tail) :
    (tail ++ [Obs.outcome o]).count .bodyStart = 0 := by
  rw [List.count_eq_zero]
  rcases h with rfl | ⟨m, rfl⟩ <;> simp

theorem newRetFail_obs (w : WrapSkel) (pre : List Obs) (v : Verdict) (st : TState) :
    ∃ tail o, TceTail tail ∧ (newRetFail w pre v st).2 = pre ++ (tail ++ [.outcome o]) ∧
      ∀ b, o ≠ .tceParams b := by
  unfold newRetFail
  split
  · exact ⟨[], _, .inl rfl, rfl, by split <;> nofun⟩
  · exact ⟨[], _, .inl rfl, rfl, nofun⟩
  · exact ⟨_, _, .inr ⟨_, rfl⟩, rfl, nofun⟩

theorem newParamFail_obs (sk : Skel) (w : WrapSkel) (ps : List Param) (st : TState) :
    ∃ tail o, TceTail tail ∧ (newParamFail sk w ps st).2 = tail ++ [.outcome o] ∧ o ≠ .tceReturn := by
  unfold newParamFail
  split
  · exact ⟨_, _, .inr ⟨_, rfl⟩, rfl, nofun⟩
  · exact ⟨[], _, .inl rfl, rfl, nofun⟩

section
variable {sk : Skel} {ps : List Param} {st : TState} (w : WrapSkel) (ret : Option (LType × Obj))
  (B : TState → TState × List Obs) (e : Exit) (hd : st.disable = false)
include hd

/-- the parameter pass accepted: the body runs, and what follows its observations is not a parameter error -/
theorem callStep_new_T (hT : (checkParams sk ps (pushFrame { args := argsOf ps } st)).2.1 = .T) :
    ∃ tail o, TceTail tail ∧
      (callStep sk w .newStyle ps ret true false B e st).2 =
        [.bodyStart] ++ (B (checkParams sk ps (pushFrame { args := argsOf ps } st)).1).2 ++ (tail ++ [.outcome o]) ∧
      (∀ b, o ≠ .tceParams b) ∧ (e ≠ .ret ∨ ret = none → tail = [] ∧ o = exitOutcome e) := by
  unfold callStep
  simp only [hd, hT, Bool.or_false, Bool.and_false, Bool.false_eq_true, if_false, Bool.not_true]
  cases e with
  | ret =>
    cases ret with
    | none => exact ⟨[], _, .inl rfl, rfl, nofun, fun _ => ⟨rfl, rfl⟩⟩
    | some lx =>
      have hno : ¬(Exit.ret ≠ .ret ∨ some lx = none) := by simp
      have fail := fun pre v s => newRetFail_obs w pre v s
      dsimp only
      split
      · split
        · exact ⟨[], _, .inl rfl, rfl, nofun, fun h => absurd h hno⟩
        · obtain ⟨tail, o, h1, h2, h3⟩ := fail _ _ _
          exact ⟨tail, o, h1, h2, h3, fun h => absurd h hno⟩
      · obtain ⟨tail, o, h1, h2, h3⟩ := fail _ _ _
        exact ⟨tail, o, h1, h2, h3, fun h => absurd h hno⟩
  | _ => exact ⟨[], _, .inl rfl, rfl, nofun, fun _ => ⟨rfl, rfl⟩⟩

/-- the parameter pass did not accept: the body does not run, the error is not one of the return stage, and with the
    `except AnnotationError: raise` clause first an AnnotationError is the outcome -/
theorem callStep_new_notT (hT : (checkParams sk ps (pushFrame { args := argsOf ps } st)).2.1 ≠ .T) :
    ∃ tail o, TceTail tail ∧
      (callStep sk w .newStyle ps ret true false B e st).2 = tail ++ [.outcome o] ∧ o ≠ .tceReturn ∧
      ((checkParams sk ps (pushFrame { args := argsOf ps } st)).2.1 = .ANN → w.annErrFirst = true →
        tail = [] ∧ o = .ann) := by
  unfold callStep
  simp only [hd, Bool.or_false, Bool.and_false, Bool.false_eq_true, if_false, Bool.not_true]
  have fail := fun s => newParamFail_obs sk w ps s
  split
  · next h => exact absurd h hT
  · split
    · exact ⟨[], _, .inl rfl, rfl, nofun, fun _ _ => ⟨rfl, rfl⟩⟩
    · next ha =>
      obtain ⟨tail, o, h1, h2, h3⟩ := fail _
      exact ⟨tail, o, h1, h2, h3, fun _ h => absurd h ha⟩
  · next h => exact ⟨[], _, .inl rfl, rfl, nofun, fun h' => nomatch h.symm.trans h'⟩
  · next hn _ =>
    obtain ⟨tail, o, h1, h2, h3⟩ := fail _
    exact ⟨tail, o, h1, h2, h3, fun h => absurd h hn⟩
end

end JV
