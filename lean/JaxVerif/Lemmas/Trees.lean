/-
What `PyTree[L]` accepts: exactly the trees all of whose leaves match L (C08; C04 for array leaves).
* `leavesWith p` (the leaves `tree_flatten` finds when `is_leaf` decides `p`) against the declarative `TreeAccepts`,
  along `Obj.children?`.
* `flat_spec`: a leaf check that decides `p` in the sense of `LeafSpec` flattens `x` to `leavesWith p x`.
* A PyTree without a structure name is then `pytreeFinish` around the leaf loop over those leaves
  (`pytreeCore_none_spec`, with `pytreeInstancecheck_eq`); the loop is unfolded by `leafLoop_cons_T` /
  `leafLoop_cons_stop`. Two leaf checks are carried through: one that decides a predicate and keeps the memo
  (`pytree_pure`), and the array check, whose loop is `checkSeq` (`pytree_arrays_seq`).
* `checkLs_of_forall`, `checkLU_of_forall`: tuples and unions of leaf types that decide a predicate and keep the state.
Core Lean only.
-/
import JaxVerif.Spec.Trees
import JaxVerif.Spec.Calls
import JaxVerif.Lemmas.Rollback
import JaxVerif.Lemmas.Calls
import JaxVerif.Lemmas.Walks

namespace JV

theorem checkLs_of_forall (sk : Skel) (ts : List LType)
    (h : ∀ t ∈ ts, ∀ x st, checkL sk t x st = (st, if accL t x = true then Verdict.T else Verdict.F))
    (xs : List Obj) (st : CState) :
    checkLs sk ts xs st = (st, if accLs ts xs = true then Verdict.T else Verdict.F) := by
  induction ts generalizing xs with
  | nil => rfl
  | cons t ts ih =>
    cases xs with
    | nil => rfl
    | cons x xs =>
      rw [checkLs, accLs, h t (List.mem_cons_self ..)]
      cases accL t x
      · rfl
      · exact ih (fun t ht => h t (List.mem_cons_of_mem _ ht)) xs

theorem checkLU_of_forall (sk : Skel) (ts : List LType)
    (h : ∀ t ∈ ts, ∀ x st, checkL sk t x st = (st, if accL t x = true then Verdict.T else Verdict.F))
    (x : Obj) (st : CState) :
    checkLU sk ts x st = (st, if accLU ts x = true then Verdict.T else Verdict.F) := by
  induction ts with
  | nil => rfl
  | cons t ts ih =>
    rw [checkLU, accLU, h t (List.mem_cons_self ..)]
    cases accL t x
    · exact ih fun t ht => h t (List.mem_cons_of_mem _ ht)
    · rfl

/-- a value that is no node is a leaf whatever `p` says of it -/
theorem leavesWith_children (p : Obj → Bool) (x : Obj) :
    leavesWith p x = match x.children? with
      | none => [x]
      | some cs => if p x = true then [x] else leavesWithList p cs := by
  cases x <;> rfl

theorem leavesWith_of_true {p : Obj → Bool} {x : Obj} (h : p x = true) : leavesWith p x = [x] := by
  rw [leavesWith_children]
  cases x.children?
  · rfl
  · exact if_pos h

theorem leavesWith_of_false {p : Obj → Bool} {x : Obj} {cs : List Obj} (h : p x = false)
    (hc : x.children? = some cs) : leavesWith p x = leavesWithList p cs := by
  rw [leavesWith_children, hc]
  exact if_neg (Bool.eq_false_iff.mp h)

theorem leavesWith_of_leaf (p : Obj → Bool) {x : Obj} (hc : x.children? = none) : leavesWith p x = [x] := by
  rw [leavesWith_children, hc]

theorem leavesWithList_eq (p : Obj → Bool) : ∀ xs, leavesWithList p xs = xs.flatMap (leavesWith p)
  | [] => rfl
  | x :: xs => by rw [leavesWithList, List.flatMap_cons, leavesWithList_eq p xs]

theorem noFaultList_iff : ∀ xs, Obj.noFaultList xs = true ↔ ∀ x ∈ xs, x.noFault = true
  | [] => ⟨fun _ => List.forall_mem_nil _, fun _ => rfl⟩
  | x :: xs => by
    rw [List.forall_mem_cons, ← noFaultList_iff xs, ← Bool.and_eq_true_iff]
    rfl

theorem noFault_children {x : Obj} {cs : List Obj} (hx : x.noFault = true) (hc : x.children? = some cs) :
    Obj.noFaultList cs = true := by
  cases x with
  | custom _ _ xs => cases hc; exact (Bool.and_eq_true_iff.mp hx).2
  | tuple xs | list xs | dict _ xs | ntuple _ xs => cases hc; exact hx
  | none => cases hc; rfl
  | _ => cases hc

/-! ### leaves of a fault-free value are fault-free -/

theorem noFault_leavesWith (p : Obj → Bool) : ∀ x : Obj, x.noFault = true →
    ∀ y ∈ leavesWith p x, y.noFault = true := by
  refine Obj.induct_children fun x ih hx y hy => ?_
  cases hc : x.children? with
  | none => rw [leavesWith_of_leaf p hc, List.mem_singleton] at hy; exact hy ▸ hx
  | some cs =>
    cases hp : p x with
    | true => rw [leavesWith_of_true hp, List.mem_singleton] at hy; exact hy ▸ hx
    | false =>
      rw [leavesWith_of_false hp hc, leavesWithList_eq, List.mem_flatMap] at hy
      obtain ⟨c, hcm, hyc⟩ := hy
      exact ih cs hc c hcm ((noFaultList_iff cs).mp (noFault_children hx hc) c hcm) y hyc

theorem noFault_leavesWithList (p : Obj → Bool) : ∀ xs : List Obj, Obj.noFaultList xs = true →
    ∀ y ∈ leavesWithList p xs, y.noFault = true := by
  intro xs hxs y hy
  rw [leavesWithList_eq, List.mem_flatMap] at hy
  obtain ⟨x, hxm, hyx⟩ := hy
  exact noFault_leavesWith p x ((noFaultList_iff xs).mp hxs x hxm) y hyx

/-! ### all discovered leaves match ↔ the declarative acceptance -/

theorem treeAccepts_of_all (p : Obj → Bool) : ∀ x : Obj, (leavesWith p x).all p = true →
    TreeAccepts (fun y => p y = true) x := by
  refine Obj.induct_children fun x ih h => ?_
  cases hp : p x with
  | true => exact .leaf _ hp
  | false =>
    cases hc : x.children? with
    | none =>
      rw [leavesWith_of_leaf p hc, List.all_cons, List.all_nil, Bool.and_true] at h
      exact .leaf _ h
    | some cs =>
      rw [leavesWith_of_false hp hc, leavesWithList_eq, List.all_flatMap, List.all_eq_true] at h
      exact .node x cs hc fun c hcm => ih cs hc c hcm (h c hcm)

theorem treeAccepts_of_allList (p : Obj → Bool) : ∀ xs : List Obj,
    (leavesWithList p xs).all p = true → ∀ c ∈ xs, TreeAccepts (fun y => p y = true) c := by
  intro xs h c hc
  rw [leavesWithList_eq, List.all_flatMap, List.all_eq_true] at h
  exact treeAccepts_of_all p c (h c hc)

theorem all_leaves_iff (p : Obj → Bool) (x : Obj) :
    (leavesWith p x).all p = true ↔ TreeAccepts (fun y => p y = true) x := by
  refine ⟨treeAccepts_of_all p x, fun h => ?_⟩
  induction h with
  | leaf x hx => rw [leavesWith_of_true hx, List.all_cons, hx]; rfl
  | node x cs hc _ ih =>
    cases hp : p x with
    | true => rw [leavesWith_of_true hp, List.all_cons, hp]; rfl
    | false => rw [leavesWith_of_false hp hc, leavesWithList_eq, List.all_flatMap, List.all_eq_true]; exact ih

theorem TreeAccepts.mono {a b : Obj → Prop} (h : ∀ y, a y → b y) {x : Obj}
    (hx : TreeAccepts a x) : TreeAccepts b x := by
  induction hx with
  | leaf x hx => exact .leaf x (h x hx)
  | node x cs hc _ ih => exact .node x cs hc ih

theorem TreeAccepts.idem {a : Obj → Prop} {x : Obj} (hx : TreeAccepts (TreeAccepts a) x) :
    TreeAccepts a x := by
  induction hx with
  | leaf x hx => exact hx
  | node x cs hc _ ih => exact .node x cs hc ih

/-! ### leaf checks that decide a pure predicate

`LeafSpec I R g p`: on fault-free values and states satisfying `I`, the leaf check `g` answers
`p`, keeps `I`, and moves the state along `R`. -/

structure LeafSpec (I : CState → Prop) (R : CState → CState → Prop)
    (g : Obj → CState → CState × Verdict) (p : Obj → Bool) : Prop where
  refl : ∀ s, R s s
  trans : ∀ a b c, R a b → R b c → R a c
  step : ∀ x st, x.noFault = true → I st →
    (g x st).2 = (if p x then Verdict.T else Verdict.F) ∧ R st (g x st).1 ∧ I (g x st).1

section
variable {I : CState → Prop} {R : CState → CState → Prop} {f : Obj → CState → CState × Verdict} {u : Bool}
  {p : Obj → Bool} (hf : LeafSpec I R (fun x st => if u = true then f x st else (st, Verdict.F)) p)
include hf

theorem flatList_spec_of (xs : List Obj)
    (h : ∀ c ∈ xs, ∀ st, c.noFault = true → I st →
      ∃ st' d, flat f u c st = (st', .ok (leavesWith p c) d) ∧ R st st' ∧ I st')
    (st : CState) (hx : Obj.noFaultList xs = true) (hI : I st) :
    ∃ st' ds, flatList f u xs st = (st', .ok (leavesWithList p xs) ds) ∧ R st st' ∧ I st' := by
  induction xs generalizing st with
  | nil => exact ⟨st, [], rfl, hf.refl st, hI⟩
  | cons x xs ih =>
    obtain ⟨hx1, hx2⟩ := Bool.and_eq_true_iff.mp hx
    obtain ⟨st1, d, h1, hR1, hI1⟩ := h x (List.mem_cons_self ..) st hx1 hI
    obtain ⟨st2, ds, h2, hR2, hI2⟩ := ih (fun c hc => h c (List.mem_cons_of_mem _ hc)) st1 hx2 hI1
    refine ⟨st2, d :: ds, ?_, hf.trans _ _ _ hR1 hR2, hI2⟩
    rw [flatList, h1]
    dsimp only
    rw [h2, leavesWithList]

theorem flat_spec : ∀ (x : Obj) (st : CState), x.noFault = true → I st →
    ∃ st' d, flat f u x st = (st', .ok (leavesWith p x) d) ∧ R st st' ∧ I st' := by
  refine Obj.induct_children fun x ih st hx hI => ?_
  obtain ⟨hv, hR, hI'⟩ := hf.step x st hx hI
  generalize hr : (if u = true then f x st else (st, Verdict.F)) = r at hv hR hI'
  obtain ⟨st', v⟩ := r
  dsimp only at hv hR hI'
  cases hp : p x with
  | true =>
    rw [hp, if_pos rfl] at hv
    exact ⟨st', .leaf, by rw [flat_of_T (hv ▸ hr), leavesWith_of_true hp], hR, hI'⟩
  | false =>
    rw [hp, if_neg Bool.false_ne_true] at hv
    subst hv
    rcases flat_of_F hr with ⟨hc, h⟩ | ⟨e, he, _⟩ | ⟨k, cs, hc, h⟩
    · exact ⟨st', .leaf, by rw [h, leavesWith_of_leaf p hc], hR, hI'⟩
    · rw [hx] at he; cases he
    · obtain ⟨st2, ds, h2, hR2, hI2⟩ :=
        flatList_spec_of hf cs (ih cs hc) st' (noFault_children hx hc) hI'
      exact ⟨st2, .node k ds, by rw [h, h2, leavesWith_of_false hp hc]; rfl, hf.trans _ _ _ hR hR2, hI2⟩

end

theorem flatList_spec (I : CState → Prop) (R : CState → CState → Prop)
    (f : Obj → CState → CState × Verdict) (u : Bool) (p : Obj → Bool)
    (hf : LeafSpec I R (fun x st => if u then f x st else (st, Verdict.F)) p) :
    ∀ (xs : List Obj) (st : CState), Obj.noFaultList xs = true → I st →
      ∃ st' ds, flatList f u xs st = (st', .ok (leavesWithList p xs) ds) ∧ R st st' ∧ I st' :=
  fun xs => flatList_spec_of hf xs fun c _ => flat_spec hf c

/-- when the leaf predicate decides `p` in flatten mode, verdict and memo of `_check` are those of the leaf loop over
    `leavesWith p x`: what `_check` does around the loop touches only the two flags -/
theorem pytreeCore_none_spec {I : CState → Prop} {R : CState → CState → Prop} (sk : Skel)
    {f : Obj → CState → CState × Verdict} {b : Bool} {p : Obj → Bool}
    (hp : LeafSpec I R (fun x st => if (!b) = true then f x st else (st, Verdict.F)) p)
    (x : Obj) (st : CState) (hx : x.noFault = true) (hI : I { st with flatten := true }) :
    ∃ st1, R { st with flatten := true } st1 ∧
      let L := leafLoop sk (if b = true then fun _ s => (s, Verdict.T) else f) none (leavesWith p x) 0
        { st1 with flatten := if sk.flattenRestores = true then st.flatten else false }
      (pytreeCore sk f b none x st).2 = L.2 ∧ (pytreeCore sk f b none x st).1.memo = L.1.memo := by
  obtain ⟨st1, d, h, hR, _⟩ := flat_spec hp x _ hx hI
  refine ⟨st1, hR, ?_⟩
  unfold pytreeCore
  rw [h]
  dsimp only
  generalize leafLoop sk _ none _ 0 _ = L
  obtain ⟨st4, v⟩ := L
  -- after the loop `_check` touches the label only
  have hc : ∀ c : Bool, (if c = true then st4 else { st4 with tp := none }).memo = st4.memo :=
    fun c => by cases c <;> rfl
  cases v with
  | T | F => exact ⟨rfl, hc _⟩
  | ANN | EXC =>
    refine ⟨rfl, ?_⟩
    cases sk.treepathInFinally
    · rfl
    · exact hc _

section
variable {sk : Skel} {f : Obj → CState → CState × Verdict} {x : Obj} {xs : List Obj} {i : Nat} {st st2 : CState}

theorem leafLoop_cons_T (h : f x st = (st2, .T)) :
    leafLoop sk f none (x :: xs) i st =
      leafLoop sk f none xs (i + 1) { st2 with tp := if sk.treepathGuarded = true then st2.tp else none } := by
  rw [leafLoop]
  dsimp only
  rw [h, Option.isNone_none, Bool.and_true]
  cases sk.treepathGuarded <;> rfl

theorem leafLoop_cons_stop (h : (f x st).2 ≠ .T) : leafLoop sk f none (x :: xs) i st = f x st := by
  rw [leafLoop]
  dsimp only
  generalize f x st = r at h
  obtain ⟨st2, v⟩ := r
  cases v with
  | T => exact absurd rfl h
  | _ => rfl

end

def MemoEq (a b : CState) : Prop := b.memo = a.memo

theorem leafSpec_memoEq_of (g : Obj → CState → CState × Verdict) (p : Obj → Bool)
    (h : ∀ x st, x.noFault = true →
      (g x st).2 = (if p x = true then Verdict.T else Verdict.F) ∧ (g x st).1.memo = st.memo) :
    LeafSpec (fun _ => True) MemoEq g p :=
  ⟨fun _ => rfl, fun _ _ _ h1 h2 => Eq.trans h2 h1,
    fun x st hx _ => ⟨(h x st hx).1, (h x st hx).2, trivial⟩⟩

theorem leafLoop_pure (sk : Skel) (f : Obj → CState → CState × Verdict) (q : Obj → Bool)
    (hf : LeafSpec (fun _ => True) MemoEq f q) (xs : List Obj) (hxs : ∀ x ∈ xs, x.noFault = true)
    (i : Nat) (st : CState) :
    (leafLoop sk f none xs i st).2 = (if xs.all q = true then Verdict.T else Verdict.F) ∧
      (leafLoop sk f none xs i st).1.memo = st.memo := by
  induction xs generalizing i st with
  | nil => exact ⟨rfl, rfl⟩
  | cons x xs ih =>
    obtain ⟨hv, hm, _⟩ := hf.step x st (hxs x (List.mem_cons_self ..)) trivial
    rw [List.all_cons]
    cases hq : q x with
    | false =>
      rw [hq] at hv
      rw [leafLoop_cons_stop (by rw [hv]; nofun)]
      exact ⟨hv, hm⟩
    | true =>
      rw [hq] at hv
      rw [leafLoop_cons_T (Prod.ext rfl hv), Bool.true_and]
      obtain ⟨hv2, hm2⟩ := ih (fun y hy => hxs y (List.mem_cons_of_mem _ hy)) (i + 1) _
      exact ⟨hv2, hm2.trans hm⟩

/-- `__instancecheck__` of a structure-less PyTree on a value other than `None`, when the leaf predicate decides `p`
    and the check run on the leaves decides `q`, both keeping the memo -/
theorem pytreeInstancecheck_pure (sk : Skel) (f : Obj → CState → CState × Verdict) (b : Bool)
    (p q : Obj → Bool)
    (hp : LeafSpec (fun _ => True) MemoEq (fun x st => if (!b) = true then f x st else (st, Verdict.F)) p)
    (hq : LeafSpec (fun _ => True) MemoEq (if b = true then fun _ s => (s, Verdict.T) else f) q)
    (x : Obj) (st : CState) (hx : x.noFault = true) (hn : x ≠ .none) :
    (pytreeInstancecheck sk f b none x st).2 =
      (if (leavesWith p x).all q = true then Verdict.T else Verdict.F) ∧
    (pytreeInstancecheck sk f b none x st).1.memo = st.memo := by
  rw [pytreeInstancecheck_eq hn, pytreeFinish_snd]
  -- `st0`: the state `_check` starts from
  have h0 : st.noCtx = false → (if st.noCtx then { st with memo := {} } else st).memo = st.memo :=
    fun hc => by rw [hc]; rfl
  generalize (if st.noCtx then { st with memo := {} } else st) = st0 at h0 ⊢
  obtain ⟨st1, hR, hv, hm⟩ := pytreeCore_none_spec sk hp x st0 hx trivial
  obtain ⟨hlv, hlm⟩ := leafLoop_pure sk _ q hq (leavesWith p x) (noFault_leavesWith p x hx) 0 _
  exact ⟨hv.trans hlv, pytreeFinish_kept sk fun hc => (hm.trans (hlm.trans hR)).trans (h0 hc)⟩

/-- **a PyTree without a structure name turns a check that decides `q` and keeps the memo into one that decides
    "every leaf satisfies `q`"**, where a subtree that satisfies `q` counts as a leaf; `hb`: `leafAny` is only set
    for a leaf type that accepts everything -/
theorem pytree_pure (sk : Skel) {f : Obj → CState → CState × Verdict} {q : Obj → Bool} {b : Bool}
    (hf : LeafSpec (fun _ => True) MemoEq f q) (hb : b = true → ∀ y, q y = true) :
    LeafSpec (fun _ => True) MemoEq (pytreeInstancecheck sk f b none) fun x => (leavesWith q x).all q := by
  refine leafSpec_memoEq_of _ _ fun x st hx => ?_
  by_cases hn : x = .none
  · -- `None` is a node without children
    subst hn
    exact ⟨(if_pos ((all_leaves_iff q .none).mpr (.node _ [] rfl (List.forall_mem_nil _)))).symm, rfl⟩
  cases b with
  | false => exact pytreeInstancecheck_pure sk f false q q hf hf x st hx hn
  | true =>
    -- nothing is cut off, every leaf is accepted
    obtain ⟨hv, hm⟩ := pytreeInstancecheck_pure sk f true (fun _ => false) (fun _ => true)
      (leafSpec_memoEq_of _ _ fun _ _ _ => ⟨rfl, rfl⟩) (leafSpec_memoEq_of _ _ fun _ _ _ => ⟨rfl, rfl⟩) x st hx hn
    rw [if_pos (List.all_eq_true.mpr fun _ _ => rfl)] at hv
    exact ⟨hv.trans (if_pos (List.all_eq_true.mpr fun y _ => hb rfl y)).symm, hm⟩

theorem toArr_isInst (cls : String) (x : Obj) : (x.toArr cls).isInst = Obj.isArrOf cls x := by
  cases x <;> rfl

/-- in flatten mode the array check is the class test and touches nothing -/
theorem checkL_arr_flatten (sk : Skel) (cls : String) (a : Ann) (ha : a.transparent = false)
    (x : Obj) (st : CState) (hf : st.flatten = true) (hn : st.noCtx = false) :
    checkL sk (.arr cls a) x st = (st, if Obj.isArrOf cls x = true then Verdict.T else Verdict.F) := by
  obtain ⟨m, tp, fl, nc⟩ := st
  cases hf
  cases hn
  rw [checkL_arr_check, instancecheck, ha, toArr_isInst]
  cases Obj.isArrOf cls x <;> rfl

/-- over array leaves, in an open context outside flatten mode, the leaf loop is `checkSeq` on the memo -/
theorem leafLoop_arr (sk : Skel) (cls : String) (a : Ann) (ls : List Obj) (i : Nat) (m : Memo) :
    leafLoop sk (checkL sk (.arr cls a)) none ls i ⟨m, none, false, false⟩ =
      (⟨(checkSeq sk.arrayCatch none (ls.map fun o => (a, o.toArr cls)) m).2, none, false, false⟩,
        (checkSeq sk.arrayCatch none (ls.map fun o => (a, o.toArr cls)) m).1) := by
  induction ls generalizing i m with
  | nil => rfl
  | cons y ys ih =>
    have hy := checkL_arr_check sk cls a y m none false
    rw [List.map_cons]
    rcases checkSeq_cons_cases sk.arrayCatch none a (y.toArr cls) (ys.map fun o => (a, o.toArr cls)) m with
      ⟨m1, h1, h⟩ | ⟨hv, h⟩ <;> rw [h]
    · rw [h1] at hy
      rw [leafLoop_cons_T hy]
      dsimp only
      rw [ite_self]
      exact ih (i + 1) m1
    · rw [leafLoop_cons_stop (by rw [hy]; exact hv), hy]

theorem pytree_arrays_seq (sk : Skel) (cls : String) (a : Ann) (ha : a.transparent = false)
    (x : Obj) (hx : x.noFault = true) (hn : x ≠ .none) (st : CState)
    (hst : st.flatten = false ∧ st.tp = none ∧ st.noCtx = false) :
    let leaves := (leavesWith (Obj.isArrOf cls) x).map fun o => (a, o.toArr cls)
    (checkL sk (.pytree (.arr cls a) none) x st).2 = (checkSeq sk.arrayCatch none leaves st.memo).1 ∧
    ((checkSeq sk.arrayCatch none leaves st.memo).1 = .T →
      (checkL sk (.pytree (.arr cls a) none) x st).1.memo =
        (checkSeq sk.arrayCatch none leaves st.memo).2) := by
  intro leaves
  obtain ⟨m, tp, fl, nc⟩ := st
  obtain ⟨rfl, rfl, rfl⟩ := hst
  -- as `is_leaf` the array check is the class test and leaves the state as it is
  have hspec : LeafSpec (fun s => s.flatten = true ∧ s.noCtx = false) Eq
      (fun y s => if (!false) = true then checkL sk (.arr cls a) y s else (s, Verdict.F))
      (Obj.isArrOf cls) :=
    ⟨fun _ => rfl, fun _ _ _ h1 h2 => h1.trans h2, fun y s _ hI => by
      rw [Bool.not_false, if_pos rfl, checkL_arr_flatten sk cls a ha y s hI.1 hI.2]
      exact ⟨rfl, rfl, hI⟩⟩
  obtain ⟨st1, hR, hv, hm⟩ := pytreeCore_none_spec sk hspec x ⟨m, none, false, false⟩ hx ⟨rfl, rfl⟩
  subst hR
  simp only [Bool.false_eq_true, if_false, ite_self, leafLoop_arr] at hv hm
  rw [checkL_pytree_eq, pytreeInstancecheck_eq hn, pytreeFinish_snd]
  exact ⟨hv, fun hT => (pytreeFinish_T sk rfl (hv.trans hT)).trans hm⟩

end JV
