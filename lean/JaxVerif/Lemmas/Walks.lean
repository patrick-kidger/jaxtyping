/-
The walks of the PyTree model (`flat` / `flatList`, `checkLs`, `checkLU`) thread the thread state through calls of
a leaf check.
* `Obj.induct_children`: induction over a value along `Obj.children?` — the one place that recurses over `Obj` and
  lists of `Obj` together. With `flat_of_T` / `flat_of_exc` / `flat_of_F` (what `flat` does at one node, by the
  answer of the leaf predicate) a fact about `flat` is a short case analysis plus a plain list induction for `flatList`.
* What every call of the leaf check preserves, the walk preserves: stated once for a reflexive, transitive relation
  `R` between the state before and the state after (`flat_rel`, `checkLs_rel`, `checkLU_rel`, `leafLoop_rel`).
* `_check` and `__instancecheck__` around the walks, for relations that look at the two transient flags one by one
  (`FlagRel`; `pytreeCore_rel`, `pytreeInstancecheck_rel`). Lemmas/Flags and Lemmas/Treepath instantiate them.
Core Lean only.
-/
import JaxVerif.Spec.Trees
import JaxVerif.Spec.Calls

namespace JV

mutual
theorem Obj.induct_children {P : Obj → Prop}
    (h : ∀ x, (∀ cs, x.children? = some cs → ∀ c ∈ cs, P c) → P x) : ∀ x, P x
  | .tuple xs => h _ fun _ hc => Option.some.inj hc ▸ Obj.induct_list h xs
  | .list xs => h _ fun _ hc => Option.some.inj hc ▸ Obj.induct_list h xs
  | .dict _ vs => h _ fun _ hc => Option.some.inj hc ▸ Obj.induct_list h vs
  | .ntuple _ xs => h _ fun _ hc => Option.some.inj hc ▸ Obj.induct_list h xs
  | .custom _ _ xs => h _ fun _ hc => Option.some.inj hc ▸ Obj.induct_list h xs
  | .none => h _ fun _ hc => Option.some.inj hc ▸ fun _ hm => nomatch hm
  | .int _ => h _ fun _ hc => nomatch hc
  | .str _ => h _ fun _ hc => nomatch hc
  | .opaque _ => h _ fun _ hc => nomatch hc
  | .arr _ _ => h _ fun _ hc => nomatch hc
theorem Obj.induct_list {P : Obj → Prop}
    (h : ∀ x, (∀ cs, x.children? = some cs → ∀ c ∈ cs, P c) → P x) : ∀ xs : List Obj, ∀ c ∈ xs, P c
  | [], _, hm => nomatch hm
  | x :: xs, c, hm =>
    (List.mem_cons.mp hm).elim (fun e => e ▸ Obj.induct_children h x) (Obj.induct_list h xs c)
end

theorem wrapNode_fst (k : Kind) (p : CState × FlatListRes) : (wrapNode k p).1 = p.1 := by
  rcases p with ⟨st, _ | _⟩ <;> rfl

section
variable {f : Obj → CState → CState × Verdict} {u : Bool} {x : Obj} {st st' : CState}

theorem flat_of_T (h : (if u then f x st else (st, Verdict.F)) = (st', .T)) :
    flat f u x st = (st', .ok [x] .leaf) := by
  rw [flat, h]

theorem flat_of_exc {v : Verdict} (h : (if u then f x st else (st, Verdict.F)) = (st', v)) (hT : v ≠ .T)
    (hF : v ≠ .F) : flat f u x st = (st', .raised v) := by
  rw [flat, h]
  cases v with
  | T => exact absurd rfl hT
  | F => exact absurd rfl hF
  | _ => rfl

/-- the leaf predicate said False: `x` is no container and so a leaf after all, or its flattener raises, or its
    children are flattened in turn -/
theorem flat_of_F (h : (if u then f x st else (st, Verdict.F)) = (st', .F)) :
    (x.children? = none ∧ flat f u x st = (st', .ok [x] .leaf)) ∨
    (∃ e, x.noFault = false ∧ flat f u x st = (st', .raised (.EXC e))) ∨
    (∃ k cs, x.children? = some cs ∧ flat f u x st = wrapNode k (flatList f u cs st')) := by
  rw [flat, h]
  cases x with
  | custom tag fault xs =>
    cases fault with
    | none => exact .inr (.inr ⟨_, _, rfl, rfl⟩)
    | some e => exact .inr (.inl ⟨e, rfl, rfl⟩)
  | tuple xs => exact .inr (.inr ⟨_, _, rfl, rfl⟩)
  | list xs => exact .inr (.inr ⟨_, _, rfl, rfl⟩)
  | dict ks vs => exact .inr (.inr ⟨_, _, rfl, rfl⟩)
  | ntuple tag xs => exact .inr (.inr ⟨_, _, rfl, rfl⟩)
  | none => exact .inr (.inr ⟨.none, _, rfl, rfl⟩)
  | _ => exact .inl ⟨rfl, rfl⟩
end

section
variable {R : CState → CState → Prop} (refl : ∀ s, R s s) (trans : ∀ {a b c}, R a b → R b c → R a c)
  {f : Obj → CState → CState × Verdict}
include refl trans

theorem flatList_rel_of (u : Bool) : ∀ (xs : List Obj),
    (∀ c ∈ xs, ∀ st, R st (flat f u c st).1) → ∀ st, R st (flatList f u xs st).1
  | [], _, st => by rw [flatList]; exact refl st
  | x :: xs, h, st => by
    have h1 := h x (List.mem_cons_self ..) st
    rw [flatList]
    generalize flat f u x st = r at h1
    obtain ⟨st1, _ | _⟩ := r
    · have h2 := flatList_rel_of u xs (fun c hc => h c (List.mem_cons_of_mem _ hc)) st1
      dsimp only
      generalize flatList f u xs st1 = r2 at h2
      obtain ⟨st2, _ | _⟩ := r2 <;> exact trans h1 h2
    · exact h1

theorem flat_rel (hf : ∀ x st, R st (f x st).1) (u : Bool) :
    ∀ (x : Obj) (st : CState), R st (flat f u x st).1 := by
  refine Obj.induct_children fun x ih st => ?_
  have h0 : R st (if u then f x st else (st, Verdict.F)).1 := by
    cases u
    · exact refl st
    · exact hf x st
  generalize hr : (if u then f x st else (st, Verdict.F)) = r at h0
  obtain ⟨st', v⟩ := r
  cases v with
  | T => rw [flat_of_T hr]; exact h0
  | ANN => rw [flat_of_exc hr nofun nofun]; exact h0
  | EXC e => rw [flat_of_exc hr nofun nofun]; exact h0
  | F =>
    rcases flat_of_F hr with ⟨_, h⟩ | ⟨e, _, h⟩ | ⟨k, cs, hc, h⟩
    · rw [h]; exact h0
    · rw [h]; exact h0
    · rw [h, wrapNode_fst]; exact trans h0 (flatList_rel_of refl trans u cs (ih cs hc) st')

theorem flatList_rel (hf : ∀ x st, R st (f x st).1) (u : Bool) :
    ∀ (xs : List Obj) (st : CState), R st (flatList f u xs st).1 :=
  fun xs => flatList_rel_of refl trans u xs fun c _ => flat_rel refl trans hf u c

theorem checkLs_rel (sk : Skel) : ∀ (ts : List LType), (∀ t ∈ ts, ∀ x st, R st (checkL sk t x st).1) →
    ∀ xs st, R st (checkLs sk ts xs st).1
  | [], _, xs, st => by rw [checkLs]; exact refl st
  | _ :: _, _, [], st => by rw [checkLs]; exact refl st
  | t :: ts, h, x :: xs, st => by
    rw [checkLs]
    have h1 := h t (List.mem_cons_self ..) x st
    generalize checkL sk t x st = r at h1
    obtain ⟨st1, v⟩ := r
    cases v with
    | T => exact trans h1 (checkLs_rel sk ts (fun t ht => h t (List.mem_cons_of_mem _ ht)) xs st1)
    | _ => exact h1

theorem checkLU_rel (sk : Skel) : ∀ (ts : List LType), (∀ t ∈ ts, ∀ x st, R st (checkL sk t x st).1) →
    ∀ x st, R st (checkLU sk ts x st).1
  | [], _, x, st => by rw [checkLU]; exact refl st
  | t :: ts, h, x, st => by
    rw [checkLU]
    have h1 := h t (List.mem_cons_self ..) x st
    generalize checkL sk t x st = r at h1
    obtain ⟨st1, v⟩ := r
    cases v with
    | F => exact trans h1 (checkLU_rel sk ts (fun t ht => h t (List.mem_cons_of_mem _ ht)) x st1)
    | _ => exact h1

/-! `checkL` on the leaf types that are no PyTree (a union is `checkLU_rel`, a PyTree `pytreeInstancecheck_rel`, the
others leave the state as it is): a user class answers from its tables; the array check changes the memo at most
(`hmemo`); a tuple type checks componentwise. -/

omit trans in
theorem checkL_user_rel (sk : Skel) (acc : List String) (faults : List (String × Exc)) (x : Obj) (st : CState) :
    R st (checkL sk (.user acc faults) x st).1 := by
  unfold checkL
  split
  · split <;> exact refl st
  · exact refl st

omit trans in
theorem checkL_arr_rel (hmemo : ∀ st m, R st { st with memo := m }) (sk : Skel) (cls : String) (a : Ann) (x : Obj)
    (st : CState) : R st (checkL sk (.arr cls a) x st).1 := by
  unfold checkL
  split
  · exact refl st
  · exact hmemo st _

theorem checkL_tuple_rel (sk : Skel) (ts : List LType) (h : ∀ t ∈ ts, ∀ x st, R st (checkL sk t x st).1) (x : Obj)
    (st : CState) : R st (checkL sk (.tuple ts) x st).1 := by
  unfold checkL
  split
  · split
    · exact refl st
    · exact checkLs_rel refl trans sk ts h _ st
  · split
    · exact refl st
    · exact checkLs_rel refl trans sk ts h _ st
  · exact refl st

/-- What the leaf loop does to the thread state besides calling the leaf check: it sets the label
    (with a structure name) and clears it. A reflexive, transitive relation that these and the leaf
    check keep, the loop keeps. -/
theorem leafLoop_rel (sk : Skel) (hf : ∀ x st, R st (f x st).1) (S : Option String)
    (hset : ∀ s i st, S = some s → R st { st with tp := some (i, s) })
    (hclr : ∀ st, R st (if (sk.treepathGuarded && S.isNone) = true then st else { st with tp := none })) :
    ∀ (xs : List Obj) (i : Nat) (st : CState), R st (leafLoop sk f S xs i st).1
  | [], i, st => by rw [leafLoop]; exact refl st
  | x :: xs, i, st => by
    have step : ∀ st1, R st st1 → R st (match f x st1 with
        | (st2, .T) => leafLoop sk f S xs (i + 1)
            (if (sk.treepathGuarded && S.isNone) = true then st2 else { st2 with tp := none })
        | (st2, v) => (st2, v)).1 := by
      intro st1 h0
      have h1 := trans h0 (hf x st1)
      generalize f x st1 = r at h1
      obtain ⟨st2, v⟩ := r
      cases v with
      | T => exact trans h1 (trans (hclr st2) (leafLoop_rel sk hf S hset hclr xs (i + 1) _))
      | _ => exact h1
    cases S with
    | none => rw [leafLoop]; exact step st (refl st)
    | some s =>
      rw [leafLoop]
      by_cases htp : st.tp.isSome = true
      · rw [if_pos htp]
        exact refl st
      · rw [if_neg htp]
        exact step _ (hset s i st rfl)

end

/-! ### `_check` and `__instancecheck__` of a PyTree, for any relation that looks at the flags one by one

`FlagsLe` (unchanged or cleared, Lemmas/Flags.lean) is one such relation; equality of both flags (`CFlagsEq`,
Lemmas/Treepath.lean) under `treepathGuarded`, `flattenRestores` and without a structure name is
another. -/

def FlagRel (Rf : Bool → Bool → Prop) (Rt : TreePath → TreePath → Prop) (a b : CState) : Prop :=
  Rf a.flatten b.flatten ∧ Rt a.tp b.tp

section
variable {Rf : Bool → Bool → Prop} {Rt : TreePath → TreePath → Prop}
  (rf : ∀ x, Rf x x) (tf : ∀ {x y z}, Rf x y → Rf y z → Rf x z)
  (rt : ∀ x, Rt x x) (tt : ∀ {x y z}, Rt x y → Rt y z → Rt x z)
  {sk : Skel} (hs : sk.Good) {f : Obj → CState → CState × Verdict}
  (hf : ∀ x st, FlagRel Rf Rt st (f x st).1) {S : Option String}
  (hrel : ∀ x, Rf x (if sk.flattenRestores = true then x else false))
  (hclr : (sk.treepathGuarded && S.isNone) = false → ∀ x, Rt x none)
include rf tf rt tt hs hf hrel hclr

/-- `_check`: flatten mode is entered and released (to what it was, or to off), the label is set
    only by a PyTree with a structure name, which clears it again. -/
theorem pytreeCore_rel (leafAny : Bool) (x : Obj) (st : CState) :
    FlagRel Rf Rt st (pytreeCore sk f leafAny S x st).1 := by
  have refl : ∀ s, FlagRel Rf Rt s s := fun s => ⟨rf _, rt _⟩
  have trans : ∀ {a b c}, FlagRel Rf Rt a b → FlagRel Rf Rt b c → FlagRel Rf Rt a c :=
    fun h1 h2 => ⟨tf h1.1 h2.1, tt h1.2 h2.2⟩
  unfold pytreeCore
  simp only [hs.1, hs.2, if_true]
  have hflat := (flat_rel refl trans hf (!leafAny) x { st with flatten := true }).2
  generalize flat f (!leafAny) x { st with flatten := true } = r at hflat
  -- released: whatever became of the flatten flag inside, it is now what it was before, or off
  have hrel' : ∀ m : Memo, FlagRel Rf Rt st
      ⟨m, r.1.tp, if sk.flattenRestores = true then st.flatten else false, r.1.noCtx⟩ :=
    fun m => ⟨hrel _, hflat⟩
  obtain ⟨st1, ⟨leaves, d⟩ | v⟩ := r
  · dsimp only at hrel' ⊢
    split
    · exact hrel' _
    · exact hrel' _
    · exact hrel' _
    · rename_i pm _
      have hcheck : ∀ x st, FlagRel Rf Rt st
          ((if leafAny = true then fun _ s => (s, Verdict.T) else f) x st).1 := by
        split
        · exact fun _ st => refl st
        · exact hf
      -- Setting the label is no `Rt` step, so the loop does not keep `FlagRel Rf Rt`. It keeps the flatten flag in any
      -- case, and the label when it sets none (no structure name) and does not clear one that was there
      -- (`treepathGuarded`). Otherwise `_check` clears the label after the loop, and `hclr` applies.
      have hloop := leafLoop_rel
        (R := FlagRel Rf fun a b => (sk.treepathGuarded && S.isNone) = true → Rt a b)
        (fun _ => ⟨rf _, fun _ => rt _⟩) (fun h1 h2 => ⟨tf h1.1 h2.1, fun c => tt (h1.2 c) (h2.2 c)⟩) sk
        (fun x st => ⟨(hcheck x st).1, fun _ => (hcheck x st).2⟩) S
        (fun s _ _ hS => ⟨rf _, fun c => by rw [hS, Option.isNone_some, Bool.and_false] at c; cases c⟩)
        (fun st => ⟨by split <;> exact rf _, fun c => by rw [if_pos c]; exact rt _⟩)
        leaves 0 ⟨{ st1.memo with pytree := pm }, st1.tp,
          if sk.flattenRestores = true then st.flatten else false, st1.noCtx⟩
      generalize leafLoop sk _ S leaves 0 _ = L at hloop ⊢
      obtain ⟨st4, v⟩ := L
      dsimp only at hloop ⊢
      have key : FlagRel Rf Rt st (if (sk.treepathGuarded && S.isNone) = true then st4
          else { st4 with tp := none }) := by
        by_cases c : (sk.treepathGuarded && S.isNone) = true
        · rw [if_pos c]
          exact ⟨tf (hrel _) hloop.1, tt hflat (hloop.2 c)⟩
        · rw [if_neg c]
          exact ⟨tf (hrel _) hloop.1, hclr (Bool.eq_false_iff.2 c) _⟩
      cases v <;> exact key
  · exact hrel' _

/-- `__instancecheck__` adds only the saving and restoring of the bindings -/
theorem pytreeInstancecheck_rel (leafAny : Bool) (x : Obj) (st : CState) :
    FlagRel Rf Rt st (pytreeInstancecheck sk f leafAny S x st).1 := by
  unfold pytreeInstancecheck
  split
  · exact ⟨rf _, rt _⟩
  · have h : FlagRel Rf Rt st (pytreeCore sk f leafAny S x
        (if st.noCtx = true then { st with memo := {} } else st)).1 := by
      split
      · exact pytreeCore_rel rf tf rt tt hs hf hrel hclr leafAny x { st with memo := {} }
      · exact pytreeCore_rel rf tf rt tt hs hf hrel hclr leafAny x st
    dsimp only
    generalize pytreeCore sk f leafAny S x _ = r at h
    obtain ⟨st1, v⟩ := r
    cases v with
    | T =>
      dsimp only
      split <;> exact h
    | F => exact h
    | ANN => exact h
    | EXC e =>
      dsimp only
      split <;> exact h
end

end JV
