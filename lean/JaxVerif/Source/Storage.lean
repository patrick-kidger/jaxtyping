/-
The binding-stack functions of jaxtyping/_storage.py, translated from the current source on every run
(harness/translate_storage.py -> Generated/StorageCode.lean), are the stack operations the model works with, for EVERY
content of the calling thread's cell (attribute missing, empty stack, non-empty stack):
`get_shape_memo` hands out the top frame, or four throw-away tables when there is none, and changes nothing;
`set_shape_memo` replaces the top frame by the four tables it is given, in their slots, and is a no-op when there is none;
`push_shape_memo` puts ONE fresh frame with a copy of the arguments on top (creating the stack if it is missing);
`pop_shape_memo` takes exactly the top frame off. These are `onTop` / `topMemo` / `popStack` and the push of
Model/Call.lean (`source_storage_model`). The proof scripts only split on what the code can look at, so a
meaning-preserving restructuring (helpers that return the stack or None, guard clauses, `getattr` with a default) is
re-proved as it is, while a change of meaning (a frame pushed on reading, the write applied below the top, tables stored
in other slots, the stack shared through a class attribute or a captured dict) makes them fail.
The second half does the same for the two per-thread cells (`?`-leaf label, flatten-mode flag).
Used by Properties/C04, C05, C06, C12, C16. Core Lean only.
-/
import JaxVerif.Generated.StorageCode
import JaxVerif.Model.Call

namespace JV

-- The interpreter is defined by well-founded recursion: its equations are generated once, here, for the whole file.
attribute [local simp] runStorageFn SStmt.run SExpr.eval truthy frameOf resolve List.lookup Generated.storageFuns

theorem source_storage_get (ctx : SCtx) (cell : Option (List Memo)) :
    runStorageFn Generated.storageFuns ctx Generated.getShapeMemoCode cell
      = some (cell, .frame (match cell with | some (_ :: _) => .top | _ => .empty)) := by
  rcases cell with _ | (_ | ⟨x, r⟩) <;> simp [Generated.getShapeMemoCode]

theorem source_storage_set (ctx : SCtx) (cell : Option (List Memo)) :
    runStorageFn Generated.storageFuns ctx Generated.setShapeMemoCode cell
      = some ((match cell with | some (_ :: r) => some (ctx.M :: r) | c => c), .none) := by
  rcases cell with _ | (_ | ⟨x, r⟩) <;> simp [Generated.setShapeMemoCode]

theorem source_storage_push (ctx : SCtx) (cell : Option (List Memo)) :
    runStorageFn Generated.storageFuns ctx Generated.pushShapeMemoCode cell
      = some (some ({ args := ctx.A } :: cell.getD []), .frame .fresh) := by
  rcases cell with _ | (_ | ⟨x, r⟩) <;> simp [Generated.pushShapeMemoCode]

theorem source_storage_pop (ctx : SCtx) (x : Memo) (r : List Memo) :
    ∃ v, runStorageFn Generated.storageFuns ctx Generated.popShapeMemoCode (some (x :: r)) = some (some r, v) := by
  simp [Generated.popShapeMemoCode]

/-- the same four facts in the vocabulary of Model/Call.lean: a thread state whose stack is what the cell holds -/
theorem source_storage_model (ctx : SCtx) (st : TState) (cell : Option (List Memo)) (h : st.stack = cell.getD []) :
    -- reading: the frame handed out is `topMemo` (the throw-away one is empty), the stack is untouched
    (∃ src, runStorageFn Generated.storageFuns ctx Generated.getShapeMemoCode cell = some (cell, .frame src) ∧
            resolve ctx (topMemo st) src = topMemo st) ∧
    -- writing: `onTop`'s write-back — the head is replaced, an empty stack stays empty
    ((runStorageFn Generated.storageFuns ctx Generated.setShapeMemoCode cell).map (fun r => r.1.getD [])
        = some (match st.stack with | [] => [] | _ :: r => ctx.M :: r)) ∧
    -- pushing: one frame holding the arguments, on top
    ((runStorageFn Generated.storageFuns ctx Generated.pushShapeMemoCode cell).map (fun r => r.1.getD [])
        = some ({ args := ctx.A } :: st.stack)) ∧
    -- popping a non-empty stack is `popStack`
    (st.stack ≠ [] → (runStorageFn Generated.storageFuns ctx Generated.popShapeMemoCode cell).map (fun r => r.1.getD [])
        = some (popStack st).stack) := by
  rw [source_storage_get, source_storage_set, source_storage_push, topMemo, popStack, h]
  -- with the shape of the cell known, both sides of every equation compute
  rcases cell with _ | (_ | ⟨x, r⟩)
  · exact ⟨⟨_, rfl, rfl⟩, rfl, rfl, fun hne => (hne rfl).elim⟩
  · exact ⟨⟨_, rfl, rfl⟩, rfl, rfl, fun hne => (hne rfl).elim⟩
  · obtain ⟨v, hv⟩ := source_storage_pop ctx x r
    rw [hv]
    exact ⟨⟨_, rfl, rfl⟩, rfl, rfl, fun _ => rfl⟩

/-! ### histories: the translated functions refine the abstract stack machine -/

/-- the operations other modules perform on the binding stack -/
inductive StackOp
  | get
  | set (m : Memo)
  | push (a : Args)
  | pop

/-- the abstract stack machine the model's theorems are about -/
def StackOp.spec : StackOp → List Memo → Option (List Memo)
  | .get, s => some s
  | .set _, [] => some []
  | .set m, _ :: r => some (m :: r)
  | .push a, s => some ({ args := a } :: s)
  | .pop, [] => none                       -- `pop_shape_memo` without a frame is an error of the caller
  | .pop, _ :: r => some r

/-- the translated function run on the thread's cell -/
def StackOp.impl : StackOp → Option (List Memo) → Option (Option (List Memo))
  | .get, c => (runStorageFn Generated.storageFuns ⟨{}, []⟩ Generated.getShapeMemoCode c).map (·.1)
  | .set m, c => (runStorageFn Generated.storageFuns ⟨m, []⟩ Generated.setShapeMemoCode c).map (·.1)
  | .push a, c => (runStorageFn Generated.storageFuns ⟨{}, a⟩ Generated.pushShapeMemoCode c).map (·.1)
  | .pop, c => (runStorageFn Generated.storageFuns ⟨{}, []⟩ Generated.popShapeMemoCode c).map (·.1)

def runStackSpec : List StackOp → List Memo → Option (List Memo)
  | [], s => some s
  | op :: ops, s => (op.spec s).bind (runStackSpec ops)

def runStackImpl : List StackOp → Option (List Memo) → Option (Option (List Memo))
  | [], c => some c
  | op :: ops, c => (op.impl c).bind (runStackImpl ops)

/-- simulation: a step the abstract machine accepts runs on the cell, and the cell afterwards holds the abstract stack -/
theorem stackOp_step (op : StackOp) (c : Option (List Memo)) (s1 : List Memo) (hs : op.spec (c.getD []) = some s1) :
    ∃ c1, op.impl c = some c1 ∧ c1.getD [] = s1 := by
  cases op with
  | get =>
    rw [StackOp.impl, source_storage_get]
    exact ⟨c, rfl, Option.some.inj hs⟩
  | set m =>
    rw [StackOp.impl, source_storage_set]
    refine ⟨_, rfl, ?_⟩
    rcases c with _ | (_ | ⟨x, r⟩) <;> exact Option.some.inj hs
  | push a =>
    rw [StackOp.impl, source_storage_push]
    exact ⟨_, rfl, Option.some.inj hs⟩
  | pop =>
    rcases c with _ | (_ | ⟨x, r⟩)
    · cases hs
    · cases hs
    · obtain ⟨v, hv⟩ := source_storage_pop ⟨{}, []⟩ x r
      rw [StackOp.impl, hv]
      exact ⟨some r, rfl, Option.some.inj hs⟩

/-- REFINEMENT: every history of reads, writes, pushes and pops that the abstract stack machine accepts (no pop
    without a frame) runs on the translated `_storage.py` functions without an error and leaves the thread's cell holding
    exactly the abstract stack — from any starting cell, including a thread that has never used the library -/
theorem source_storage_history (ops : List StackOp) (c : Option (List Memo)) (s' : List Memo)
    (h : runStackSpec ops (c.getD []) = some s') :
    (runStackImpl ops c).map (·.getD []) = some s' := by
  induction ops generalizing c with
  | nil => exact h
  | cons op ops ih =>
    obtain ⟨s1, hs, h⟩ := Option.bind_eq_some_iff.1 h
    obtain ⟨c1, hi, rfl⟩ := stackOp_step op c s1 hs
    rw [runStackImpl, hi]
    exact ih c1 h

/-! ### the `?`-leaf label and the flatten-mode flag -/

attribute [local simp] runCellFn KStmt.run KExpr.eval ktruthy Generated.treepathFuns Generated.treeflattenFuns

/-- what the label cell can hold: nothing yet, `None`, or a label -/
def TreepathCellOk (cell : Option KVal) : Prop := cell = none ∨ cell = some .none ∨ ∃ i S, cell = some (.label i S)

/-- `clear_` / `set_` / `get_treepath_memo`, translated from the source read today, for every content of the cell:
    clearing stores `None`; setting raises AnnotationError (and changes nothing) when a label is set, and otherwise
    stores the label of THIS index and structure name; reading returns the label, or raises AnnotationError without one -/
theorem source_cell_treepath (ctx : KCtx) (cell : Option KVal) (h : TreepathCellOk cell) :
    runCellFn Generated.treepathFuns ctx Generated.clearTreepathCode cell = some (some .none, .inl .none) ∧
    runCellFn Generated.treepathFuns ctx Generated.setTreepathCode cell
      = (match cell with
         | some (.label _ _) => some (cell, .inr ())
         | _ => some (some (.label ctx.index ctx.sname), .inl .none)) ∧
    runCellFn Generated.treepathFuns ctx Generated.getTreepathCode cell
      = (match cell with
         | some (.label i S) => some (cell, .inl (.label i S))
         | _ => some (cell, .inr ())) := by
  refine ⟨?_, ?_, ?_⟩
  · rcases h with rfl | rfl | ⟨i, S', rfl⟩ <;> simp [Generated.clearTreepathCode]
  · -- only `set_treepath_memo` looks at its arguments: which of the two labels it builds depends on `index`
    obtain ⟨idx, S⟩ := ctx
    rcases h with rfl | rfl | ⟨i, S', rfl⟩ <;> cases idx <;> simp [Generated.setTreepathCode]
  · rcases h with rfl | rfl | ⟨i, S', rfl⟩ <;> simp [Generated.getTreepathCode]

/-- in the model's vocabulary (`tp : TreePath`): after clearing there is no label; setting the label of leaf `i` of
    structure `S` where there was none gives exactly `(i, S)` -/
theorem source_cell_treepath_model (i : Nat) (S : String) (cell : Option KVal) (h : TreepathCellOk cell) :
    ((runCellFn Generated.treepathFuns ⟨some i, S⟩ Generated.clearTreepathCode cell).map fun r => tpOfCell r.1) = some none ∧
    ((∀ j S', cell ≠ some (.label j S')) →
      ((runCellFn Generated.treepathFuns ⟨some i, S⟩ Generated.setTreepathCode cell).map fun r => tpOfCell r.1) = some (some (i, S))) := by
  have hh := source_cell_treepath ⟨some i, S⟩ cell h
  refine ⟨by rw [hh.1]; rfl, fun hn => ?_⟩
  rw [hh.2.1]
  rcases h with rfl | rfl | ⟨j, S', rfl⟩
  · rfl
  · rfl
  · exact (hn j S' rfl).elim

def FlattenCellOk (cell : Option KVal) : Prop := cell = none ∨ ∃ b, cell = some (.bool b)

/-- `clear_` / `set_` / `get_treeflatten_memo`: stores False / True; reads the flag, False in a thread that never set it -/
theorem source_cell_flatten (ctx : KCtx) (cell : Option KVal) (h : FlattenCellOk cell) :
    runCellFn Generated.treeflattenFuns ctx Generated.clearTreeflattenCode cell = some (some (.bool false), .inl .none) ∧
    runCellFn Generated.treeflattenFuns ctx Generated.setTreeflattenCode cell = some (some (.bool true), .inl .none) ∧
    runCellFn Generated.treeflattenFuns ctx Generated.getTreeflattenCode cell = some (cell, .inl (.bool (flattenOfCell cell))) := by
  rcases h with rfl | ⟨b, rfl⟩ <;>
    simp [Generated.clearTreeflattenCode, Generated.setTreeflattenCode, Generated.getTreeflattenCode, flattenOfCell]

/-! ### histories of the label: the translated functions refine the abstract label machine -/

/-- what `_check` does to the `?`-leaf label -/
inductive LabelOp
  | clear
  | set (i : Nat) (S : String)
  | get

/-- the abstract label machine of the model (`tp : TreePath`): the new label and whether the operation raised AnnotationError -/
def LabelOp.spec : LabelOp → TreePath → TreePath × Bool
  | .clear, _ => (none, false)
  | .set i S, none => (some (i, S), false)
  | .set _ _, some p => (some p, true)          -- a label on top of a label: ambiguous, AnnotationError
  | .get, none => (none, true)                  -- `?` outside a structured PyTree: AnnotationError
  | .get, some p => (some p, false)

/-- the translated function run on the thread's cell: the cell afterwards and whether it raised AnnotationError -/
def LabelOp.impl : LabelOp → Option KVal → Option (Option KVal × Bool)
  | .clear, c => (runCellFn Generated.treepathFuns ⟨none, ""⟩ Generated.clearTreepathCode c).map fun r => (r.1, r.2.isRight)
  | .set i S, c => (runCellFn Generated.treepathFuns ⟨some i, S⟩ Generated.setTreepathCode c).map fun r => (r.1, r.2.isRight)
  | .get, c => (runCellFn Generated.treepathFuns ⟨none, ""⟩ Generated.getTreepathCode c).map fun r => (r.1, r.2.isRight)

/-- cells the leaf loop can produce: nothing yet, `None`, or the label of a leaf -/
def LeafCellOk (c : Option KVal) : Prop := c = none ∨ c = some .none ∨ ∃ i S, c = some (.label (some i) S)

theorem LeafCellOk.treepath {c : Option KVal} (h : LeafCellOk c) : TreepathCellOk c := by
  rcases h with h | h | ⟨i, S, h⟩
  · exact Or.inl h
  · exact Or.inr (Or.inl h)
  · exact Or.inr (Or.inr ⟨some i, S, h⟩)

/-- simulation: a step of the abstract machine is a step on the cell, with the same error, and the cell afterwards
    is again one the leaf loop can produce and stands for the abstract label -/
theorem labelOp_step (op : LabelOp) (c : Option KVal) (h : LeafCellOk c) :
    ∃ c', op.impl c = some (c', (op.spec (tpOfCell c)).2) ∧ LeafCellOk c' ∧ tpOfCell c' = (op.spec (tpOfCell c)).1 := by
  have hc := fun ctx => source_cell_treepath ctx c h.treepath
  -- with the operation and the shape of the cell known, both machines compute
  cases op with
  | clear =>
    rw [LabelOp.impl, (hc _).1]
    exact ⟨_, rfl, .inr (.inl rfl), rfl⟩
  | set i S =>
    rw [LabelOp.impl, (hc _).2.1]
    rcases h with rfl | rfl | ⟨j, S', rfl⟩
    · exact ⟨_, rfl, .inr (.inr ⟨i, S, rfl⟩), rfl⟩
    · exact ⟨_, rfl, .inr (.inr ⟨i, S, rfl⟩), rfl⟩
    · exact ⟨_, rfl, .inr (.inr ⟨j, S', rfl⟩), rfl⟩
  | get =>
    rw [LabelOp.impl, (hc _).2.2]
    rcases h with rfl | rfl | ⟨j, S', rfl⟩
    · exact ⟨_, rfl, .inl rfl, rfl⟩
    · exact ⟨_, rfl, .inr (.inl rfl), rfl⟩
    · exact ⟨_, rfl, .inr (.inr ⟨j, S', rfl⟩), rfl⟩

def runLabelSpec : List LabelOp → TreePath → TreePath × List Bool
  | [], tp => (tp, [])
  | op :: ops, tp => let r := op.spec tp; let q := runLabelSpec ops r.1; (q.1, r.2 :: q.2)

def runLabelImpl : List LabelOp → Option KVal → Option (Option KVal × List Bool)
  | [], c => some (c, [])
  | op :: ops, c => (op.impl c).bind fun r => (runLabelImpl ops r.1).map fun q => (q.1, r.2 :: q.2)

/-- REFINEMENT: every history of clear / set / get on the label — including the ones that raise AnnotationError, after
    which the history goes on — runs on the translated functions with exactly the abstract machine's sequence of errors
    and ends in a cell that stands for the abstract label, from any cell the leaf loop can produce -/
theorem source_cell_treepath_history (ops : List LabelOp) (c : Option KVal) (h : LeafCellOk c) :
    ∃ c', runLabelImpl ops c = some (c', (runLabelSpec ops (tpOfCell c)).2) ∧ tpOfCell c' = (runLabelSpec ops (tpOfCell c)).1 := by
  induction ops generalizing c with
  | nil => exact ⟨c, rfl, rfl⟩
  | cons op ops ih =>
    obtain ⟨c1, h1, hok, htp⟩ := labelOp_step op c h
    obtain ⟨c2, h2, htp2⟩ := ih c1 hok
    rw [htp] at h2 htp2
    refine ⟨c2, ?_, htp2⟩
    rw [runLabelImpl, h1, Option.bind_some, h2]
    rfl

end JV
