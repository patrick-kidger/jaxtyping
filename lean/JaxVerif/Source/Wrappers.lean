/-
The bodies of the `jaxtyped` wrappers, translated from the current source on every run
(harness/translate_wrap.py -> Generated/WrapperCode.lean), are the `call` / `ctx` steps of the model
(Model/Call.lean through Lemmas/CallStep.lean) with every structural fact `true`: for every argument list,
every body, every verdict of the typechecker, every way the body may end, both values of the
remove-stack switch. The proof scripts only split on what the code can look at and compute, so a
meaning-preserving restructuring of the source is re-proved as it is, while a change of meaning (the
disable test after the push, `pop` outside the `finally`, `except Exception` in front of
`except AnnotationError`, the body called twice or not at all, a stale message) makes them fail.

How the code is run: `WStmt.runK` is the interpreter of Model/WrapDsl.lean in continuation-passing style
(`runK_eq`). Unfolding it on translated code never waits for the result of a statement that asks the
typechecker or the configuration, so one `dsimp` turns the code into the tree of its possible runs, every step
a definitional unfolding; that tree is then compared with the tree `callStep` is, test by test.
Used by Properties/C05, C07, C13, C19. Core Lean only.
-/
import JaxVerif.Generated.WrapperCode
import JaxVerif.Lemmas.CallStep

namespace JV

/-- every structural fact about the wrappers as the model's theorems need it -/
def goodWrap : WrapSkel := ⟨true, true, true, true, true, true, true, true⟩

variable {α : Type}

def verdictK (v : Verdict) (s : WSt) (k : WRes → α) : α :=
  match v with
  | .T => k (.normal s)
  | .F => k (.raised .typeErr s)
  | .ANN => k (.raised .ann s)
  | .EXC e => k (.raised (.exc e) s)

def exitK (e : Exit) (s : WSt) (k : WRes → α) : α :=
  match e with
  | .ret => k (.normal { s with out := true })
  | .raiseExc => k (.raised (.exc .exception) s)
  | .raiseBase => k (.raised (.exc .baseException) s)

def callFnK (env : WEnv) (s : WSt) (k : WRes → α) : α :=
  match env.bindOk with
  | false => k (.raised .bind s)
  | true =>
    match env.fn with
    | .plain =>
      exitK env.exit { s with st := (env.body s.st).1, obs := s.obs ++ [.bodyStart] ++ (env.body s.st).2 } k
    | .typechecked =>
      match (checkParams env.sk env.params s.st).2.1 with
      | .T =>
        let s1 : WSt := { s with st := (env.body (checkParams env.sk env.params s.st).1).1,
                                 obs := s.obs ++ [.bodyStart] ++ (env.body (checkParams env.sk env.params s.st).1).2 }
        match env.exit with
        | .ret =>
          match env.ret with
          | none => k (.normal { s1 with out := true })
          | some (l, x) =>
            verdictK (onTop s1.st (checkL env.sk l x)).2
              { s1 with st := (onTop s1.st (checkL env.sk l x)).1, out := true } k
        | e => exitK e s1 k
      | v => verdictK v { s with st := (checkParams env.sk env.params s.st).1 } k

/-- `WStmt.run` with the rest of the computation as an argument: every statement whose result depends on something
    a proof has to split on (a verdict, a switch, how the body ends) hands each possible result to `k` itself,
    instead of returning a `match` for the caller to take apart; the others go through `WStmt.run` -/
def WStmt.runK (env : WEnv) (implK : WSt → (WRes → α) → α) : WStmt → WSt → (WRes → α) → α
  | .seq a b, s, k => a.runK env implK s fun
      | .normal s' => b.runK env implK s' k
      | r => k r
  | .ite c t e, s, k =>
    match c.eval env s with
    | none => k .crash
    | some true => t.runK env implK s k
    | some false => e.runK env implK s k
  | .tryFinally b f, s, k => b.runK env implK s fun
      | .crash => k .crash
      | .normal s' => f.runK env implK s' k
      | .ret s' => f.runK env implK s' fun
          | .normal s'' => k (.ret s'')
          | r => k r
      | .raised x s' => f.runK env implK s' fun
          | .normal s'' => k (.raised x s'')
          | r => k r
  | .tryExcept b hs, s, k => b.runK env implK s fun
      | .raised x s' => hs.runK env implK { s' with caught := some x } k
      | r => k r
  | .handler cls body next, s, k =>
    match s.caught with
    | none => k .crash
    | some x =>
      match cls.covers x with
      | true => body.runK env implK s k
      | false => next.runK env implK s k
  | .retImpl, s, k => implK s fun
      | .normal _ => k .crash
      | r => k r
  | .bind, s, k =>
    match env.bindOk with
    | true => k (.normal { s with bound := true })
    | false => k (.raised .bind s)
  | .message, s, k =>
    match env.msgFault with
    | none => k (.normal s)
    | some e => k (.raised (.exc e) s)
  | .retFn, s, k => callFnK env s fun
      | .normal s' => k (.ret s')
      | r => k r
  | .callFn, s, k => callFnK env s k
  | .paramFn, s, k =>
    verdictK (checkParams env.sk env.params s.st).2.1 { s with st := (checkParams env.sk env.params s.st).1 } k
  | .fullFn, s, k =>
    match s.outStored with
    | false => k .crash
    | true =>
      match (checkParams env.sk env.params s.st).2.1 with
      | .T =>
        match env.ret with
        | none => k (.normal { s with st := (checkParams env.sk env.params s.st).1 })
        | some (l, x) =>
          verdictK (onTop (checkParams env.sk env.params s.st).1 (checkL env.sk l x)).2
            { s with st := (onTop (checkParams env.sk env.params s.st).1 (checkL env.sk l x)).1 } k
      | v => verdictK v { s with st := (checkParams env.sk env.params s.st).1 } k
  | .getProblemArg, s, k =>
    match s.bound && s.defaults with
    | false => k .crash
    | true =>
      match (problemArg env.sk env.params s.st).2 with
      | .inl b => k (.raised (.tceInner b) { s with st := (problemArg env.sk env.params s.st).1 })
      | .inr e => k (.raised (.exc e) { s with st := (problemArg env.sk env.params s.st).1 })
  | c, s, k => k (c.run env (fun _ => .crash) s)

theorem verdictK_eq (v : Verdict) (s : WSt) (k : WRes → α) : verdictK v s k = k (verdictRes v s) := by
  cases v <;> rfl

theorem exitK_eq (e : Exit) (s : WSt) (k : WRes → α) : exitK e s k = k (exitRes e s) := by
  cases e <;> rfl

theorem callFnK_eq (env : WEnv) (s : WSt) (k : WRes → α) : callFnK env s k = k (callFnRes env s) := by
  unfold callFnK callFnRes
  cases env.bindOk
  · rfl
  cases env.fn
  · exact exitK_eq ..
  cases (checkParams env.sk env.params s.st).2.1
  · cases env.exit
    · cases env.ret
      · rfl
      · exact verdictK_eq ..
    all_goals rfl
  all_goals rfl

theorem WStmt.runK_eq (env : WEnv) (implK : WSt → (WRes → α) → α) (implRun : WSt → WRes)
    (hI : ∀ s k, implK s k = k (implRun s)) (c : WStmt) :
    ∀ (s : WSt) (k : WRes → α), c.runK env implK s k = k (c.run env implRun s) := by
  -- the statements that go through `WStmt.run` are closed by the `dsimp` itself
  induction c <;> intro s k <;> dsimp only [WStmt.runK, WStmt.run]
  case seq a b iha ihb =>
    rw [iha]
    cases a.run env implRun s <;> first | rfl | exact ihb _ _
  case ite c t e iht ihe =>
    cases c.eval env s with
    | none => rfl
    | some b =>
      cases b
      · exact ihe _ _
      · exact iht _ _
  case tryFinally b f ihb ihf =>
    rw [ihb]
    cases b.run env implRun s with
    | crash => rfl
    | normal s' => exact ihf _ _
    | ret s' =>
      dsimp only
      rw [ihf]
      cases f.run env implRun s' <;> rfl
    | raised x s' =>
      dsimp only
      rw [ihf]
      cases f.run env implRun s' <;> rfl
  case tryExcept b hs ihb ihhs =>
    rw [ihb]
    cases b.run env implRun s <;> first | rfl | exact ihhs _ _
  case handler cls body next ihb ihn =>
    cases s.caught with
    | none => rfl
    | some x =>
      dsimp only
      cases cls.covers x
      · exact ihn _ _
      · exact ihb _ _
  case retImpl =>
    rw [hI]
    cases implRun s <;> rfl
  case bind => cases env.bindOk <;> rfl
  case message => cases env.msgFault <;> rfl
  case retFn =>
    rw [callFnK_eq]
    cases callFnRes env s <;> rfl
  case callFn => exact callFnK_eq ..
  case paramFn => exact verdictK_eq ..
  case fullFn =>
    cases s.outStored
    · rfl
    cases (checkParams env.sk env.params s.st).2.1
    · cases env.ret
      · rfl
      · exact verdictK_eq ..
    all_goals rfl
  case getProblemArg =>
    cases (s.bound && s.defaults)
    · rfl
    · cases (problemArg env.sk env.params s.st).2 <;> rfl

theorem runWrapper_eq_runK (env : WEnv) (code : WStmt) (st : TState) :
    runWrapper env code st =
      code.runK env (fun s k => env.impl.runK env (fun _ k' => k' .crash) s k) { st := st } WRes.finish := by
  unfold runWrapper
  rw [WStmt.runK_eq]
  intro s k
  rw [WStmt.runK_eq]
  intro _ _
  rfl

/-- running translated code gave `r` where the model's step gives `m`: the same — or, when the message code raises
    (`mf = some _`; see `WEnv.msgFault`), another exception and other observations, but the same thread state -/
inductive Yields : Option Exc → Option (TState × List Obs) → TState × List Obs → Prop
  | same {mf m} : Yields mf (some m) m
  | fault {e s o o'} : Yields (some e) (some (s, o)) (s, o')

/-- the code appends the bindings and the outcome one after the other -/
theorem Yields.snoc {mf s} {l : List Obs} {a b : Obs} : Yields mf (some (s, l ++ [a] ++ [b])) (s, l ++ [a, b]) := by
  rw [List.append_assoc]
  exact .same

theorem Yields.eq {r m} (h : Yields none r m) : r = some m := by
  cases h
  rfl

theorem Yields.state {mf r m} (h : Yields mf r m) : r.map Prod.fst = some m.1 := by
  cases h <;> rfl

/-! For the tests the code makes on its own locals. `dsimp` takes only lemmas proved by `rfl`: core's `Bool.true_and`,
    `Bool.true_or`, `Bool.not_true` are proved by cases, and `reduceIte` is a `simp` procedure. -/
theorem and_true_left (b : Bool) : (true && b) = b := rfl
theorem or_true_left (b : Bool) : (true || b) = true := rfl
theorem not_true' : (!true) = false := rfl
theorem ite_true_eq_true {β : Sort _} (a b : β) : (if true = true then a else b) = a := rfl
theorem ite_false_eq_true {β : Sort _} (a b : β) : (if false = true then a else b) = b := rfl

section yields
variable (mf : Option Exc) (sk : Skel) (ps : List Param) (ret : Option (LType × Obj)) (bindOk noTc rs nw : Bool)
  (B : TState → TState × List Obs) (e : Exit) (st : TState)

/-- `with jaxtyped("context"):` as written today, message code failing or not -/
theorem source_context_yields :
    Yields mf (runCtx Generated.ctxEnterCode Generated.ctxExitCode mf B e st) (ctxStep goodWrap B e st) := by
  cases mf <;> exact .same

/-- the old-style wrapper as written today, around a plain function (`jaxtyped(typechecker=None)(fn)`) and around the
    typechecker's own wrapper (`jaxtyped(typechecker(fn))`) -/
theorem source_old_wrapper_yields (k : FnKind) :
    Yields mf
      (runWrapper ⟨sk, ps, ret, bindOk, noTc, B, e, rs, nw, mf, k, .unknown⟩ Generated.oldWrapperCode st)
      (callStep sk goodWrap (match k with | .plain => .noChecker | .typechecked => .oldStyle) ps ret bindOk noTc B e st) := by
  rw [runWrapper_eq_runK]
  dsimp only [Generated.oldWrapperCode, callStep, goodWrap, ↓WStmt.runK, ↓WStmt.run, callFnK, verdictK, exitK,
    WCond.eval, WRes.finish, WExc.outcome, WCls.covers, pushFrame, popAfter, and_true_left, or_true_left, not_true',
    ite_true_eq_true, ite_false_eq_true]
  cases bindOk
  · cases k <;> exact .same
  cases k
  · cases e
    · exact .same
    · cases mf
      · exact .same
      · exact .fault
    · exact .same
  rcases checkParams sk ps _ with ⟨st1, v1, n1⟩
  cases v1 with
  | T =>
    cases e with
    | ret =>
      cases ret with
      | none => exact .same
      | some lx =>
        obtain ⟨l, x⟩ := lx
        dsimp only
        rcases onTop (B st1).1 (checkL sk l x) with ⟨st3, v3⟩
        cases v3 with
        | T => exact .same
        -- `.fault` is tried first: where it does not apply (`mf = none`) it fails at once
        | EXC x3 => cases x3 <;> cases mf <;> first | exact .fault | exact .same
        | _ => cases mf <;> first | exact .fault | exact .same
    | raiseExc => cases mf <;> first | exact .fault | exact .same
    | raiseBase => exact .same
  | EXC x1 => cases x1 <;> cases mf <;> first | exact .fault | exact .same
  | _ => cases mf <;> first | exact .fault | exact .same

/-- `jaxtyped(typechecker=tc)(fn)` (new style) as written today: `wrapped_fn` together with its helper frame
    `wrapped_fn_impl` -/
theorem source_new_wrapper_yields :
    Yields mf
      (runWrapper ⟨sk, ps, ret, bindOk, noTc, B, e, rs, nw, mf, .plain, Generated.newImplCode⟩
        Generated.newWrapperCode st)
      (callStep sk goodWrap .newStyle ps ret bindOk noTc B e st) := by
  rw [runWrapper_eq_runK]
  dsimp only [Generated.newWrapperCode, Generated.newImplCode, callStep, goodWrap, newRetFail, newParamFail,
    ↓WStmt.runK, ↓WStmt.run, callFnK, verdictK, exitK, WCond.eval, WRes.finish, WExc.outcome, WCls.covers, pushFrame,
    popAfter, and_true_left, or_true_left, not_true', ite_true_eq_true, ite_false_eq_true]
  generalize (st.disable || noTc) = off
  cases off
  · cases bindOk
    · exact .same
    dsimp only
    rcases checkParams sk ps _ with ⟨st1, v1, n1⟩
    cases v1 with
    | T =>
      cases e with
      | ret =>
        cases ret with
        | none => exact .same
        | some lx =>
          obtain ⟨l, x⟩ := lx
          dsimp only
          rcases checkParams sk ps _ with ⟨st2, v2, n2⟩
          cases v2 with
          | T =>
            dsimp only
            rcases onTop st2 _ with ⟨st3, v3⟩
            cases v3 with
            | T => exact .same
            | ANN => exact .same
            -- a TypeCheckError is raised: the message code runs first and may itself raise (`mf`, then `.fault`); the
            -- remove-stack switch `rs` picks one of two `raise` statements that the model does not tell apart; the code
            -- appends the bindings and the outcome one after the other (`.snoc`). The same at the five leaves below.
            | F => cases mf <;> cases rs <;> first | exact .fault | exact .snoc
            | EXC x3 =>
              cases x3
              · cases mf <;> cases rs <;> first | exact .fault | exact .snoc
              · exact .same
          | ANN => exact .same
          | F => cases mf <;> cases rs <;> first | exact .fault | exact .snoc
          | EXC x2 =>
            cases x2
            · cases mf <;> cases rs <;> first | exact .fault | exact .snoc
            · exact .same
      | _ => exact .same
    | ANN => exact .same
    | F =>
      dsimp only
      rcases problemArg sk ps st1 with ⟨st4, b4 | e4⟩
      · cases mf <;> cases rs <;> first | exact .fault | exact .same
      · exact .same
    | EXC x1 =>
      cases x1
      · dsimp only
        rcases problemArg sk ps st1 with ⟨st4, b4 | e4⟩
        · cases mf <;> cases rs <;> first | exact .fault | exact .same
        · exact .same
      · exact .same
  · cases bindOk
    · exact .same
    · cases e <;> exact .same

end yields

/-- `with jaxtyped("context"):` as written today -/
theorem source_context (B : TState → TState × List Obs) (e : Exit) (st : TState) :
    runCtx Generated.ctxEnterCode Generated.ctxExitCode none B e st = some (ctxStep goodWrap B e st) :=
  (source_context_yields ..).eq

/-- `jaxtyped(typechecker=None)(fn)` as written today -/
theorem source_nochecker_wrapper (sk : Skel) (ps : List Param) (ret : Option (LType × Obj))
    (bindOk noTc rs nw : Bool) (B : TState → TState × List Obs) (e : Exit) (st : TState) :
    runWrapper ⟨sk, ps, ret, bindOk, noTc, B, e, rs, nw, none, .plain, .unknown⟩ Generated.oldWrapperCode st
      = some (callStep sk goodWrap .noChecker ps ret bindOk noTc B e st) :=
  (source_old_wrapper_yields ..).eq

/-- `jaxtyped(typechecker(fn))` (old style) as written today: `fn` is the typechecker's own wrapper -/
theorem source_old_wrapper (sk : Skel) (ps : List Param) (ret : Option (LType × Obj))
    (bindOk noTc rs nw : Bool) (B : TState → TState × List Obs) (e : Exit) (st : TState) :
    runWrapper ⟨sk, ps, ret, bindOk, noTc, B, e, rs, nw, none, .typechecked, .unknown⟩ Generated.oldWrapperCode st
      = some (callStep sk goodWrap .oldStyle ps ret bindOk noTc B e st) :=
  (source_old_wrapper_yields ..).eq

/-- `jaxtyped(typechecker=tc)(fn)` (new style) as written today: `wrapped_fn` together with its helper
    frame `wrapped_fn_impl` -/
theorem source_new_wrapper (sk : Skel) (ps : List Param) (ret : Option (LType × Obj))
    (bindOk noTc rs nw : Bool) (B : TState → TState × List Obs) (e : Exit) (st : TState) :
    runWrapper ⟨sk, ps, ret, bindOk, noTc, B, e, rs, nw, none, .plain, Generated.newImplCode⟩
        Generated.newWrapperCode st
      = some (callStep sk goodWrap .newStyle ps ret bindOk noTc B e st) :=
  (source_new_wrapper_yields ..).eq

/-- `_get_problem_arg` as written today: its `for keep_name … else` loop, translated from the current source on this run
    and run over ANY parameter list in any thread state, is `problemArg` of the model — each parameter is re-checked on
    its own in the same context, the first whose check does not succeed (False, AnnotationError or any other
    `Exception`) is blamed by name, a `BaseException` escapes, and when every parameter passes alone the blame is empty -/
theorem source_problem_arg (sk : Skel) : ∀ (ps : List Param) (st : TState),
    runBlame sk Generated.problemArgBody Generated.problemArgElse ps st = some (problemArg sk ps st)
  | [], st => rfl
  | p :: ps, st => by
    rw [runBlame, problemArg]
    dsimp only [Generated.problemArgBody, BStmt.run, Option.isSome, ite_true_eq_true]
    rcases onTop st _ with ⟨st1, v⟩
    cases v with
    | T => exact source_problem_arg sk ps st1
    | EXC e => cases e <;> rfl
    | _ => rfl

end JV
