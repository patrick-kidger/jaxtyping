/-
`_JaxtypingLoader.source_to_code`, translated from the current source on every run (harness/translate_loader.py ->
Generated/LoaderCode.lean, which also holds `get_code` and `exec_module`: Properties/C18 proves which bytecode file a module is
looked up in). Used by Properties/C10 and C18 (what the hooked import compiles is the decoded source, parsed, transformed). The proof scripts only split
on what the code can look at, so a meaning-preserving restructuring is re-proved as it is, while a change of meaning (a
path that compiles the module as it was read, a `compile` that inherits the hook's `__future__` flags, the patch skipped
in a run that writes no bytecode or held while the module body runs, another decoding of the bytes) makes them fail.
Core Lean only.
-/
import JaxVerif.Generated.LoaderCode

namespace JV

/-- in every kind of run and whatever patch is in force, the only thing `source_to_code` returns is the tree of the
    source decoded by `decode_source`, transformed, compiled (both times) in isolation from the hook's own `__future__`
    flags, after `fix_missing_locations` -/
theorem source_loader_to_code (key : String) (writes : Bool) (gc : LSt → LRes) (active : Option String) :
    Generated.sourceToCodeCode.run key writes gc (LSt.fresh active) = .code ⟨true, true⟩ := by
  cases writes <;> rfl

end JV
