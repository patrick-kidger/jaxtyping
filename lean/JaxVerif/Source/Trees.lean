/-
`_MetaPyTree.__instancecheck__` and `_MetaPyTree._check`, translated from the current source on every run
(harness/translate_tree.py -> Generated/TreeCode.lean), are `pytreeInstancecheck` of the model (Model/PyTree.lean)
with every structural fact `true`: for every value, every leaf check that hands the flatten-mode flag back as it
found it (otherwise arbitrary: it may bind, answer False, raise anything), every structure string, every thread
state, inside or outside a context. The proof scripts only split on what the code can look at and compute, so a
meaning-preserving restructuring of the source is re-proved as it is, while a change of meaning (the snapshot taken
after flattening, the flag released outside the `finally`, the label cleared by a PyTree that did not set it, a
`return False` without the rollback, the structure step after the leaf loop) makes them fail.
Used by Properties/C04, C08, C12, C16. Core Lean only.
-/
import JaxVerif.Generated.TreeCode
import JaxVerif.Lemmas.TreeDsl
import JaxVerif.Lemmas.Rollback

namespace JV
-- the simp sets below also hold what a differently arranged source needs; on today's source some of it goes unused
set_option linter.unusedSimpArgs false

abbrev goodSkel (ac : Catch) : Skel := ⟨ac, .baseException, true, true, true, true⟩

/-- one round of either leaf loop of the translated `_check` is one round of the model's, wherever that loop is used
    (the second loop is the first again when the source has only one) -/
theorem source_tree_loop_bodies (env : TEnv) (cr : TSt → TRes) (i : Nat) (x : Obj) (s : TSt)
    (hp : s.preds = some env.leafAny) :
    (guardHolds Generated.checkLoopGuard env →
      Generated.checkLoopBody.run env cr { s with cur := some (i, x) } = leafStepSpec env i x s) ∧
    (guardHolds Generated.checkLoopGuard2 env →
      Generated.checkLoopBody2.run env cr { s with cur := some (i, x) } = leafStepSpec env i x s) := by
  unfold Generated.checkLoopBody Generated.checkLoopBody2 leafStepSpec
  constructor
  all_goals
    intro hg
    cases hS : env.S <;> cases htp : s.st.tp.isSome
    all_goals
      -- a loop that is not used for this `env.S` owes nothing; otherwise walk to the leaf test, split on its answer, walk on
      first
      | (exfalso; revert hg; simp [Generated.checkLoopGuard, Generated.checkLoopGuard2, guardHolds, hS]; done)
      | (simp only [hS, hp, htp, tree_run, ← leafCheckOf_apply] <;>
          generalize leafCheckOf env x _ = r <;> obtain ⟨st2, v⟩ := r <;> cases v <;>
          simp only [hS, tree_run])

theorem source_tree_loop_body (env : TEnv) (cr : TSt → TRes) (i : Nat) (x : Obj) (s : TSt)
    (hp : s.preds = some env.leafAny) (hg : guardHolds Generated.checkLoopGuard env) :
    Generated.checkLoopBody.run env cr { s with cur := some (i, x) } = leafStepSpec env i x s :=
  (source_tree_loop_bodies env cr i x s hp).1 hg

/-- the loops of the translated `_check` are the model's `leafLoop` -/
theorem source_tree_loop (env : TEnv) (ac : Catch) (cr : TSt → TRes) (ls : List Obj) (s : TSt)
    (hp : s.preds = some env.leafAny) (hg : guardHolds Generated.checkLoopGuard env) :
    runFor (fun s' => Generated.checkLoopBody.run env cr s') ls 0 s
      = loopRes s (leafLoop (goodSkel ac) (leafCheckOf env) env.S ls 0 s.st) :=
  runFor_leafLoop env (goodSkel ac) rfl _ (fun i x s' h => source_tree_loop_body env cr i x s' h hg) ls 0 s hp

theorem source_tree_loop2 (env : TEnv) (ac : Catch) (cr : TSt → TRes) (ls : List Obj) (s : TSt)
    (hp : s.preds = some env.leafAny) (hg : guardHolds Generated.checkLoopGuard2 env) :
    runFor (fun s' => Generated.checkLoopBody2.run env cr s') ls 0 s
      = loopRes s (leafLoop (goodSkel ac) (leafCheckOf env) env.S ls 0 s.st) :=
  runFor_leafLoop env (goodSkel ac) rfl _ (fun i x s' h => (source_tree_loop_bodies env cr i x s' h).2 hg) ls 0 s hp

theorem pytreeInstancecheck_unfold (sk : Skel) (lc : Obj → CState → CState × Verdict) (la : Bool) (S : Option String)
    (x : Obj) (st : CState) :
    pytreeInstancecheck sk lc la S x st =
      if objIsNone x then (st, .T)
      else pytreeFinish sk st (pytreeCore sk lc la S x (if st.noCtx then { st with memo := {} } else st)) := by
  by_cases hx : x = .none
  · subst hx
    rfl
  · have hn : objIsNone x = false := by
      cases x with
      | none => exact absurd rfl hx
      | _ => rfl
    rw [pytreeInstancecheck_eq hx, hn]
    rfl

/-- the end of `_check`: a PyTree with a structure name clears the `?`-leaf label it set -/
def clearOwnLabel (S : Option String) : CState × Verdict → CState × Verdict
  | (st, v) => (if S.isNone then st else { st with tp := none }, v)

/-- `_check` with every structural fact true -/
theorem pytreeCore_goodSkel (ac : Catch) (lc : Obj → CState → CState × Verdict) (la : Bool) (S : Option String)
    (x : Obj) (st : CState) :
    pytreeCore (goodSkel ac) lc la S x st =
      match flat lc (!la) x { st with flatten := true } with
      | (st1, .raised v) => ({ st1 with flatten := st.flatten }, v)
      | (st1, .ok leaves d) =>
        match (match S with
               | none => Res.ok st1.memo.pytree
               | some s => structStep s d st1.memo.pytree) with
        | .fail => ({ st1 with flatten := st.flatten }, .F)
        | .annErr => ({ st1 with flatten := st.flatten }, .ANN)
        | .exc e => ({ st1 with flatten := st.flatten }, .EXC e)
        | .ok pm =>
          clearOwnLabel S (leafLoop (goodSkel ac) (if la then fun _ s => (s, .T) else lc) S leaves 0
            { st1 with flatten := st.flatten, memo := { st1.memo with pytree := pm } }) := by
  unfold pytreeCore
  generalize flat lc (!la) x _ = fr
  obtain ⟨st1, ⟨leaves, d⟩ | v⟩ := fr
  · have hloop : ∀ st3 : CState,
        (match leafLoop (goodSkel ac) (if la then fun _ s => (s, .T) else lc) S leaves 0 st3 with
          | (st4, v) =>
            match v with
            | .T => ((if (true && S.isNone) = true then st4 else { st4 with tp := none }), Verdict.T)
            | .F => ((if (true && S.isNone) = true then st4 else { st4 with tp := none }), Verdict.F)
            | w => ((if (true && S.isNone) = true then st4 else { st4 with tp := none }), w)) =
          clearOwnLabel S (leafLoop (goodSkel ac) (if la then fun _ s => (s, .T) else lc) S leaves 0 st3) := by
      intro st3
      generalize leafLoop _ _ S leaves 0 st3 = L
      obtain ⟨st4, v4⟩ := L
      cases v4 <;> rfl
    cases S with
    | none => exact hloop _
    | some s =>
      dsimp only
      generalize structStep s d _ = ss
      cases ss with
      | ok pm => exact hloop _
      | fail => rfl
      | annErr => rfl
      | exc e => rfl
  · rfl

/-- the translated `_check` is the model's, as its caller sees it: the answer or exception, the thread state, and the
    caller's own snapshot untouched -/
theorem source_tree_check (env : TEnv) (ac : Catch) (hf : FlattenKept env.leafCheck) (s : TSt) :
    ∃ s', Generated.checkCode.run env (fun _ => .crash) s =
        answer (pytreeCore (goodSkel ac) env.leafCheck env.leafAny env.S env.x s.st).2 s' ∧
      s'.st = (pytreeCore (goodSkel ac) env.leafCheck env.leafAny env.S env.x s.st).1 ∧ s'.bak = s.bak := by
  unfold Generated.checkCode
  rw [pytreeCore_goodSkel]
  -- walk to `tree_flatten`: it went through with the flag still up, or raised an exception
  cases hS : env.S
  all_goals
    simp only [hS, tree_run, ↓TStmt.run_pickLeafPreds]
    generalize hfr : flat env.leafCheck _ env.x _ = fr
    have hfl : fr.1.flatten = true := hfr ▸ flat_flattenKept env.leafCheck hf _ _ _
    have hro : fr.2.RaisedOk := hfr ▸ flat_raisedOk env.leafCheck _ _ _
    clear hfr
    obtain ⟨⟨m1, tp1, fl1, nc1⟩, ⟨leaves, d⟩ | v⟩ := fr
    -- on: through the `finally` that releases the flag, to the structure step, to the leaf loop
    all_goals
      dsimp only at hfl
      subst hfl
      cases hw : s.st.flatten
      all_goals simp only [hS, hw, tree_run, ↓TStmt.run_pickLeafPreds]
  case none.ok.false | none.ok.true =>
    -- the source may have one leaf loop for both kinds of PyTree or one per kind (`checkLoopBody2`): whichever the
    -- code at hand runs here
    first
    | rw [source_tree_loop env ac _ leaves _ rfl (by simp [Generated.checkLoopGuard, guardHolds, hS])]
    | rw [source_tree_loop2 env ac _ leaves _ rfl (by simp [Generated.checkLoopGuard2, guardHolds, hS])]
    simp only [leafCheckOf, hS]
    generalize leafLoop (goodSkel _) _ _ _ 0 _ = L
    obtain ⟨st4, v4⟩ := L
    cases v4
    all_goals
      simp only [loopRes, hS, tree_run, ↓TStmt.run_pickLeafPreds]
      exact ⟨_, rfl, rfl, rfl⟩
  case some.ok.false | some.ok.true =>
    generalize structStep _ d _ = ss
    cases ss with
    | ok pm =>
      simp only [hS, tree_run, ↓TStmt.run_pickLeafPreds]
      first
      | rw [source_tree_loop env ac _ leaves _ rfl (by simp [Generated.checkLoopGuard, guardHolds, hS])]
      | rw [source_tree_loop2 env ac _ leaves _ rfl (by simp [Generated.checkLoopGuard2, guardHolds, hS])]
      simp only [leafCheckOf, hS]
      generalize leafLoop (goodSkel _) _ _ _ 0 _ = L
      obtain ⟨st4, v4⟩ := L
      cases v4
      all_goals
        simp only [loopRes, hS, tree_run, ↓TStmt.run_pickLeafPreds]
        exact ⟨_, rfl, rfl, rfl⟩
    | fail => exact ⟨_, rfl, rfl, rfl⟩
    | annErr => exact ⟨_, rfl, rfl, rfl⟩
    | exc e => exact ⟨_, rfl, rfl, rfl⟩
  all_goals
    cases v with
    | T => exact hro.elim
    | F => exact hro.elim
    | ANN => exact ⟨_, rfl, rfl, rfl⟩
    | EXC e => exact ⟨_, rfl, rfl, rfl⟩

theorem source_tree_instancecheck (env : TEnv) (ac : Catch) (hf : FlattenKept env.leafCheck) (st : CState) :
    runInstancecheck env Generated.instancecheckCode Generated.checkCode st =
      some (if env.bare then (st, .T)
            else pytreeInstancecheck (goodSkel ac) env.leafCheck env.leafAny env.S env.x st) := by
  unfold runInstancecheck Generated.instancecheckCode
  rw [pytreeInstancecheck_unfold]
  cases hb : env.bare <;> cases hn : objIsNone env.x
  all_goals simp only [hb, hn, tree_run]
  case false.false =>
    -- `_check` is called on the snapshot state
    obtain ⟨s', hrun, hst, hbak⟩ := source_tree_check env ac hf
      { st := if st.noCtx then { st with memo := {} } else st, bak := some st.memo }
    generalize pytreeCore _ _ _ _ _ _ = r at hrun hst ⊢
    obtain ⟨st1, v⟩ := r
    dsimp only at hst hbak
    rw [hrun]
    cases v
    all_goals simp only [answer, pytreeFinish, hst, hbak, Catch.covers, Bool.true_or, ite_self, tree_run]
  -- answered before anything was touched: outside a context `fix` puts the memo back that is there already
  all_goals split <;> rfl
end JV
